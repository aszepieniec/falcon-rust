import Falcon.Lemmas.ModNtt
import Falcon.Lemmas.NttTables

/-!
`Falcon.Ntt` (arithmetic mod q = 12289 on canonical representatives, tables of fast_fft.rs) as an instance of `ModNtt`:
the transforms of `Model/Ntt` are the network of `Model/FftFlt` at the operations `zqOps`, so the fixed definitions are `ModNtt`'s
at m = 12289, and the tables pass its check.  Hence, for `ntt` / `intt` / `negacyc` themselves and every length 2^d ≤ 1024:
the round trips, the convolution theorem (`ntt_mul`), lengths and canonicity of what they return, the transform as
evaluation at the roots in ZMod 12289 (`ntt_as_eval`), and with it the test for equality of two canonical vectors root by
root (`eq_of_eval_eq`).
-/
namespace Falcon.Ntt
open Falcon Falcon.FftFlt

abbrev Fq := ZMod 12289

theorem q_eq : q = 12289 := rfl

def zqOps : Ops Nat := ⟨addq, subq, mulq⟩

theorem nttRec_eq_O : ∀ (d k : Nat) (a : List Nat), nttRec d k a = nttRecO zqOps T d k a
  | 0, _, _ => rfl
  | d + 1, k, a => by simp only [nttRec, nttRecO, nttRec_eq_O d, zqOps]

theorem inttRec_eq_O : ∀ (d k : Nat) (a : List Nat), inttRec d k a = inttRecO zqOps TI d k a
  | 0, _, _ => rfl
  | d + 1, k, a => by simp only [inttRec, inttRecO, inttRec_eq_O d, zqOps]

theorem ntt_eq (d : Nat) (a : List Nat) : ntt d a = ModNtt.ntt 12289 T d a := nttRec_eq_O d 1 a

theorem hadamard_eq (a b : List Nat) : hadamard a b = ModNtt.hadamard 12289 a b := rfl

theorem subL_eq (a b : List Nat) : List.zipWith subq a b = ModNtt.subL 12289 a b := rfl

theorem intt_eq {d v : Nat} {a : List Nat} (h : ninv a.length = some v) :
    intt d a = .ok (ModNtt.intt 12289 TI d v a) := by
  simp only [intt, h, inttRec_eq_O]; rfl

theorem mulX_eq (p : List Nat) : mulX p = mulXO zqOps 0 p := by
  unfold mulX mulXO; cases p.getLast? <;> rfl

theorem negacyc_eq (n : Nat) : ∀ (a b : List Nat), negacyc n a b = ModNtt.negacyc 12289 n a b
  | [], _ => rfl
  | x :: xs, b => by
    unfold negacyc ModNtt.negacyc negacycO
    rw [negacyc_eq n xs b, mulX_eq]; rfl

theorem tables : ModNtt.Tables 12289 T TI 10 := by
  have h := ModNtt.tables_of_tablesOK tablesOK_true
  rwa [show (Tl.getD · 0) = T from funext fun k => (T_eq k).symm,
    show (TIl.getD · 0) = TI from funext fun k => (TI_eq k).symm] at h

theorem ninv_spec : ∀ d, d ≤ 10 → ∃ v, ninv (2 ^ d) = some v ∧ 2 ^ d * v % 12289 = 1 ∧ v < 12289 := by
  decide

/-- `ifft` on a vector of length 2^d ≤ 1024 does not take the panic arm: it is `ModNtt.intt` with the stored n⁻¹ -/
theorem intt_ok {d : Nat} (hd : d ≤ 10) {a : List Nat} (ha : a.length = 2 ^ d) :
    ∃ v, intt d a = .ok (ModNtt.intt 12289 TI d v a) ∧ 2 ^ d * v % 12289 = 1 := by
  obtain ⟨v, hv1, hv2, _⟩ := ninv_spec d hd
  exact ⟨v, intt_eq (ha ▸ hv1), hv2⟩

/-- the form in which the theorems of `ModNtt` are brought to `intt`: they hold for every scale `v` with 2^d · v = 1 -/
theorem intt_of {d : Nat} (hd : d ≤ 10) {a r : List Nat} (ha : a.length = 2 ^ d)
    (h : ∀ v, 2 ^ d * v % 12289 = 1 → ModNtt.intt 12289 TI d v a = r) : intt d a = .ok r := by
  obtain ⟨v, hv1, hv2⟩ := intt_ok hd ha
  rw [hv1, h v hv2]

theorem intt_ntt (d : Nat) (hd : d ≤ 10) (a : List Nat) (hl : a.length = 2 ^ d) (hc : ∀ x ∈ a, x < 12289) :
    intt d (ntt d a) = .ok a := by
  rw [ntt_eq]
  exact intt_of hd (ModNtt.ntt_length 12289 T d a hl) fun _ hv => ModNtt.intt_ntt (tables.mono hd) hv hl hc

theorem ntt_mul (d : Nat) (hd : d ≤ 10) (a b : List Nat) (hla : a.length = 2 ^ d) (hlb : b.length = 2 ^ d) :
    intt d (hadamard (ntt d a) (ntt d b)) = .ok (negacyc (2 ^ d) a b) := by
  rw [ntt_eq, ntt_eq, hadamard_eq, negacyc_eq]
  exact intt_of hd (ModNtt.hadamard_length 12289 (ModNtt.ntt_length 12289 T d a hla) (ModNtt.ntt_length 12289 T d b hlb))
    fun _ hv => ModNtt.ntt_mul (tables.mono hd) hv hla hlb

theorem ntt_intt (d : Nat) (hd : d ≤ 10) (v : List Nat) (hl : v.length = 2 ^ d) (hc : ∀ x ∈ v, x < 12289) :
    ∃ a, intt d v = .ok a ∧ ntt d a = v ∧ a.length = 2 ^ d ∧ ∀ x ∈ a, x < 12289 := by
  obtain ⟨w, hw1, hw2⟩ := intt_ok hd hl
  refine ⟨_, hw1, ?_, ?_, ModNtt.intt_lt _ _ _ _ _⟩
  · rw [ntt_eq, ModNtt.ntt_intt (tables.mono hd) hw2 hl hc]
  · exact ModNtt.intt_length _ _ d w v hl

theorem ntt_length (d : Nat) (a : List Nat) (h : a.length = 2 ^ d) : (ntt d a).length = 2 ^ d :=
  ntt_eq d a ▸ ModNtt.ntt_length 12289 T d a h

theorem ntt_lt (d : Nat) (a : List Nat) (h : ∀ x ∈ a, x < 12289) : ∀ x ∈ ntt d a, x < 12289 :=
  ntt_eq d a ▸ ModNtt.ntt_lt 12289 T d a h

theorem hadamard_lt (a b : List Nat) : ∀ x ∈ hadamard a b, x < 12289 := ModNtt.hadamard_lt 12289 a b

theorem negacyc_lt (n : Nat) (a b : List Nat) : ∀ x ∈ negacyc n a b, x < 12289 :=
  negacyc_eq n a b ▸ ModNtt.negacyc_lt 12289 n a b

theorem hadamard_length {a b : List Nat} {n : Nat} (ha : a.length = n) (hb : b.length = n) : (hadamard a b).length = n :=
  ModNtt.hadamard_length 12289 ha hb

theorem negacyc_length (n : Nat) (a b : List Nat) (hb : b.length = n) : (negacyc n a b).length = n := by
  have := NttG.negacyc_length (F := Fq) n (a.map Nat.cast) (b.map Nat.cast) (by simpa using hb)
  rwa [← ModNtt.cast_negacyc, ← negacyc_eq, List.length_map] at this

theorem ntt_as_eval (d : Nat) (hd : d ≤ 10) (A : List Nat) (hA : A.length = 2 ^ d) :
    (ntt d A).map Nat.cast = (NttG.roots (fun j => (T j : Fq)) d 1).map (NttG.evalL (A.map Nat.cast)) := by
  rw [ntt_eq, ModNtt.cast_ntt, NttG.ntt_eq_eval_root (tables.mono hd).sq (by simpa using hA)]

theorem eq_of_eval_eq (d : Nat) (hd : d ≤ 10) (A B : List Nat) (hA : A.length = 2 ^ d) (hB : B.length = 2 ^ d)
    (cA : ∀ x ∈ A, x < 12289) (cB : ∀ x ∈ B, x < 12289)
    (h : ∀ ρ ∈ NttG.roots (fun j => (T j : Fq)) d 1, NttG.evalL (A.map Nat.cast) ρ = NttG.evalL (B.map Nat.cast) ρ) :
    A = B := by
  have e : ntt d A = ntt d B := by
    apply ModNtt.map_cast_inj 12289 (l₁ := ntt d A) (l₂ := ntt d B) (ntt_lt d A cA) (ntt_lt d B cB)
    rw [ntt_as_eval d hd A hA, ntt_as_eval d hd B hB]
    exact List.map_congr_left h
  have hi := intt_ntt d hd A hA cA
  rw [e, intt_ntt d hd B hB cB] at hi
  exact (Res.ok.inj hi).symm

theorem log2_pow (d : Nat) : log2 (2 ^ d) = d := Nat.log2_two_pow

end Falcon.Ntt

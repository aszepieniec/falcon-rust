import Falcon.Model.Keygen
import Falcon.Lemmas.Ntru
import Falcon.Lemmas.GenPolyStream

/-!
Soundness of the executable model of `ntru_solve` (`Keygen.ntruSolveBig`: field norms, recursion, lifting step through
Karatsuba, `babai_reduce_bigint` with its floating-point quotients, extended gcd at the bottom — the model whose output is
compared with the real key generation): whatever the floating-point computations return, every round of the reduction
subtracts the multiple k·2^s of (f, g) from (F, G) (`babaiBigLoop_multiple`), so the recursion returns only solutions of
the NTRU equation; and the retry loop of `ntru_gen` returns only what went through its guards (`ntruGenLoop_key`).
-/
namespace Falcon.Keygen
open Falcon Falcon.RingZ Falcon.FftFlt Falcon.FfS

theorem adjusted_length (s : Nat) (p : List Int) (j : Nat) (h : p.length = 2 ^ j) : (adjusted s p).length = 2 ^ j := by
  unfold adjusted; exact fft_length _ j (by simpa using h)

theorem map_mul_length (c : Int) (l : List Int) : (l.map (· * c)).length = l.length := by simp

theorem map_mul_eq_smulL (c : Int) (l : List Int) : l.map (· * c) = smulL c l :=
  List.map_congr_left fun x _ => Int.mul_comm x c

/-- the quotient vector of a round of either reduction loop, `r` its rounding -/
theorem quot_length {α : Type} (r : C → α) (j s : Nat) {cF cG : List Int} {fStar gStar den : List C}
    (h1 : cF.length = 2 ^ j) (h2 : cG.length = 2 ^ j) (hfs : fStar.length = 2 ^ j) (hgs : gStar.length = 2 ^ j)
    (hden : den.length = 2 ^ j) :
    ((ifft (List.zipWith cdiv (List.zipWith cadd (List.zipWith cmul (adjusted s cF) fStar)
      (List.zipWith cmul (adjusted s cG) gStar)) den)).map r).length = 2 ^ j := by
  rw [List.length_map]
  apply ifft_length
  simp [List.length_zipWith, adjusted_length _ _ j h1, adjusted_length _ _ j h2, hfs, hgs, hden]

theorem kmul_scaled (j : Nat) {k f : List Int} (c : Int) (hk : k.length = 2 ^ j) (hf : f.length = 2 ^ j) :
    (kmul (2 ^ j) k f).map (· * c) = negacyc (2 ^ j) (k.map (· * c)) f := by
  have hp : 0 < 2 ^ j := Nat.two_pow_pos j
  rw [map_mul_eq_smulL, map_mul_eq_smulL]
  refine ev_ext _ hp _ _ (by rw [smulL_length, kmul_length]) (negacyc_length _ _ f hf) fun R _ ρ hρ => ?_
  rw [ev_smulL, ev_kmul j k f hk hf ρ hρ, ev_negacyc _ _ f hf ρ hρ, ev_smulL, mul_assoc]

theorem babaiBigLoop_multiple (j size : Nat) {f g : List Int} (hf : f.length = 2 ^ j) (hg : g.length = 2 ^ j)
    {fStar gStar den : List C} (hfs : fStar.length = 2 ^ j) (hgs : gStar.length = 2 ^ j) (hden : den.length = 2 ^ j) :
    ∀ (fuel : Nat) (cF cG : List Int), cF.length = 2 ^ j → cG.length = 2 ^ j →
      ByMultiple (2 ^ j) f g cF cG (babaiBigLoop (2 ^ j) size f g fStar gStar den fuel cF cG).2.1
        (babaiBigLoop (2 ^ j) size f g fStar gStar den fuel cF cG).2.2 := by
  have hp : 0 < 2 ^ j := Nat.two_pow_pos j
  intro fuel
  induction fuel with
  | zero => exact fun cF cG h1 h2 => .refl hp hf hg h1 h2
  | succ fuel ih =>
    intro cF cG h1 h2
    rw [babaiBigLoop]
    simp only
    by_cases hsz : max (max (maxSize cF) (maxSize cG)) 53 < size
    · rw [if_pos hsz]
      exact .refl hp hf hg h1 h2
    rw [if_neg hsz]
    -- of the quotient vector k only its length matters
    have hk := quot_length (fun c => roundToI64 c.1) j (max (max (maxSize cF) (maxSize cG)) 53 - 53) h1 h2 hfs hgs hden
    generalize List.map (fun c : C => roundToI64 c.1) _ = k at hk ⊢
    by_cases hz : k.all (· == 0) = true
    · rw [if_pos hz]
      exact .refl hp hf hg h1 h2
    -- one subtraction of (2^s·k)⋆(f, g), then the rest of the loop
    rw [if_neg hz, kmul_scaled j _ hk hf, kmul_scaled j _ hk hg]
    exact .cons hp hf hg h1 h2 _ (ih _ _ (sub_mul_length hf h1 _) (sub_mul_length hg h2 _))

/-- the three float vectors both reductions precompute from (f, g) -/
theorem star_lengths (s j : Nat) {f g : List Int} (hf : f.length = 2 ^ j) (hg : g.length = 2 ^ j) :
    ((adjusted s f).map cconj).length = 2 ^ j ∧ ((adjusted s g).map cconj).length = 2 ^ j ∧
    (List.zipWith cadd (List.zipWith cmul (adjusted s f) ((adjusted s f).map cconj))
      (List.zipWith cmul (adjusted s g) ((adjusted s g).map cconj))).length = 2 ^ j := by
  simp only [List.length_zipWith, List.length_map, adjusted_length _ _ j hf, adjusted_length _ _ j hg, Nat.min_self,
    and_self]

theorem babaiBig_multiple (j : Nat) {f g cF cG : List Int} (hf : f.length = 2 ^ j) (hg : g.length = 2 ^ j)
    (h1 : cF.length = 2 ^ j) (h2 : cG.length = 2 ^ j) :
    ByMultiple (2 ^ j) f g cF cG (babaiBig f g cF cG).2.1 (babaiBig f g cF cG).2.2 := by
  obtain ⟨l1, l2, l3⟩ := star_lengths (max (max (maxSize f) (maxSize g)) 53 - 53) j hf hg
  unfold babaiBig
  rw [hf]
  exact babaiBigLoop_multiple j _ hf hg l1 l2 l3 _ _ _ h1 h2

theorem ntruSolveBig_sound {R : Type} [CommRing R] : ∀ (d : Nat) (f g cF cG : List Int), f.length = 2 ^ d → g.length = 2 ^ d →
    ntruSolveBig d f g = some (cF, cG) → Solves R (2 ^ d) f g cF cG
  | 0, f, g, cF, cG, hf, hg, hs => by
    obtain ⟨f0, rfl⟩ := List.length_eq_one_iff.mp hf
    obtain ⟨g0, rfl⟩ := List.length_eq_one_iff.mp hg
    -- the base case is the abstract one with `xg := xgcd`
    simp only [ntruSolveBig, ← ntruBase_eq fun _ _ _ => []] at hs
    exact ntruSolve_sound xgcd xgcd_bezout _ 0 _ _ cF cG hf hg hs
  | d + 1, f, g, cF, cG, hf, hg, hs => by
    have hpow : 2 ^ (d + 1) = 2 * 2 ^ d := Nat.pow_succ'
    have hm : 0 < 2 ^ d := Nat.two_pow_pos d
    simp only [ntruSolveBig, hf, fieldNormImpl_eq hpow hm f hf, fieldNormImpl_eq hpow hm g hg] at hs
    split at hs
    · simp at hs
    rename_i cF' cG' hrec
    have hr := ntruSolveBig_sound (R := R) d _ _ cF' cG' (fieldNorm_length hpow f hf) (fieldNorm_length hpow g hg) hrec
    have lifted := hr.lift hpow hm hf hg
    rw [liftStepImpl_eq d f g cF' cG' hf hg hr.lenF hr.lenG] at hs
    split at hs
    · simp only [Option.some.injEq, Prod.mk.injEq] at hs
      obtain ⟨rfl, rfl⟩ := hs
      exact lifted.of_multiple hf hg (babaiBig_multiple (d + 1) hf hg lifted.lenF lifted.lenG)
    · simp at hs

/-- what the four guards of the modelled `ntru_gen` leave through -/
def Accepted (chk : Bool) (n : Nat) (f g cF cG : List Int) : Prop :=
  (∀ c ∈ f ++ g, (c.natAbs : Int) < fgLimit n) ∧
  (∀ x ∈ Ntt.ntt (log2 n) (f.map Zq.new), x ≠ 0) ∧
  ¬ (gsNorm f g > Float.ofBits Gen.gammaBoundBits.toUInt64 * 12289.0) ∧
  ntruSolveEntry chk f g = .ok (some (cF, cG)) ∧
  (∀ c ∈ cF ++ cG, c.natAbs ≤ Gen.capGuardLimit)

/-- the first guard's limit is 2^(w−1) for the width w of the f, g fields of the variant's secret-key format -/
theorem fgLimit_variant {n : Nat} (hn : n = 512 ∨ n = 1024) :
    fgLimit n = ((2 ^ ((if n = 1024 then 5 else 6) - 1) : Nat) : Int) := by
  rcases hn with rfl | rfl <;> decide

theorem ntruGenLoop_key (chk : Bool) (n : Nat) (seed : List Nat) : ∀ (fuel offset cand : Nat) {f g cF cG : List Int} {k : Nat},
    ntruGenLoop chk n seed fuel offset cand = .ok (.key f g cF cG k) →
    (∃ s r r', KeygenSkel.genPoly chk n s = .ok (some (f, r)) ∧ KeygenSkel.genPoly chk n r = .ok (some (g, r'))) ∧
      Accepted chk n f g cF cG := by
  intro fuel
  induction fuel with
  | zero => exact fun _ _ _ _ _ _ _ h => nomatch h
  | succ fuel ih =>
    intro offset cand f g cF cG k h
    rw [ntruGenLoop] at h
    obtain ⟨_ | ⟨f', rest⟩, h1, h⟩ := Res.bind_eq_ok.mp h
    · simp at h
    obtain ⟨_ | ⟨g', rest2⟩, h2, h⟩ := Res.bind_eq_ok.mp h
    · simp at h
    -- a candidate that fails a guard is dropped and the loop goes on
    rcases ite_eq_iff.mp h with ⟨-, h⟩ | ⟨hlim, h⟩
    · exact ih _ _ h
    rcases ite_eq_iff.mp h with ⟨-, h⟩ | ⟨hinv, h⟩
    · exact ih _ _ h
    rcases ite_eq_iff.mp h with ⟨-, h⟩ | ⟨hgam, h⟩
    · exact ih _ _ h
    obtain ⟨_ | ⟨a, b⟩, h3, h⟩ := Res.bind_eq_ok.mp h
    · exact ih _ _ h
    rcases ite_eq_iff.mp h with ⟨-, h⟩ | ⟨hcap, h⟩
    · exact ih _ _ h
    simp only [Res.pure_eq, Res.ok.injEq, Gen1.key.injEq] at h
    obtain ⟨rfl, rfl, rfl, rfl, _⟩ := h
    simp only [List.any_eq_true, decide_eq_true_eq, beq_iff_eq, not_exists, not_and] at hlim hinv hcap
    exact ⟨⟨_, _, _, h1, h2⟩, fun c hc => Int.not_le.mp (hlim c hc), hinv, hgam, h3, fun c hc => Nat.not_lt.mp (hcap c hc)⟩

theorem ntruGen_accepted (chk : Bool) (n : Nat) (seed : List Nat) (f g cF cG : List Int) (k : Nat)
    (h : ntruGen chk n seed = .ok (.key f g cF cG k)) : Accepted chk n f g cF cG :=
  (ntruGenLoop_key chk n seed _ _ _ h).2

theorem ntruGen_lengths (chk : Bool) (n : Nat) (hn : 0 < n)
    (hdiv : Gen.genPolyNumCoefficients = Gen.genPolyNumCoefficients / n * n) (seed : List Nat)
    (f g cF cG : List Int) (k : Nat) (h : ntruGen chk n seed = .ok (.key f g cF cG k)) : f.length = n ∧ g.length = n := by
  obtain ⟨⟨_, _, _, h1, h2⟩, _⟩ := ntruGenLoop_key chk n seed _ _ _ h
  exact ⟨KeygenSkel.genPoly_length chk n hdiv _ _ _ h1, KeygenSkel.genPoly_length chk n hdiv _ _ _ h2⟩

end Falcon.Keygen

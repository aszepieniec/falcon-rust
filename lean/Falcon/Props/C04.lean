import Falcon.Lemmas.EntrySound
import Falcon.Lemmas.PublicKey
import Falcon.Lemmas.Keys

/-!
# C04 — generated key pairs are valid NTRU trapdoors

Proved in every commutative ring, for every degree and every input:
* the base case of NTRUSolve (Bézout) and the lifting step of the tower produce solutions of the NTRU equation, Babai
  reduction preserves it (C17) — as ring identities, then on coefficient lists for the models of `field_norm`,
  `lift_next_cyclotomic`, `galois_adjoint`, `xgcd` and `vector_karatsuba`, hence for the recursion (`ntru_solve_sound`);
* if the transform-domain relation `ntt h ⊙ ntt f = ntt g` holds (what `from_secret_key` establishes by
  dividing, and what the model re-checks on every generated key) then h⋆f = g in Z_q[X]/(X^n+1); the h the code derives
  is g·f⁻¹ and, with the NTRU equation, also satisfies h⋆F = G (`public_key_is_g_over_f`, `derived_key_relations`).
Proved about the executable model of key generation (`Model/Keygen`, floating point included): `ntru_solve` returns only
solutions (`model_ntru_solve_sound`); so does the 32-bit top level whenever the executable exactness window of the run
holds (`entry_level_sound_in_window`); hence every key of the modelled `ntru_gen` is a valid trapdoor under that one
hypothesis (`model_generated_keys_are_ntru_trapdoors`).
Checked on every generated key by exact integer arithmetic in the model and, independently, in the harness:
f⋆G − g⋆F = q over Z, h⋆f = g, ntt f nowhere zero; the driver evaluates the window on every generated key.  NOT proved:
that the window holds for every seed, that the narrowing conversions (i32, i16) are lossless for every seed, and the leaf
range [σ_min, σ_max] (rests on lattice facts outside this formalisation); the leaves are range-checked numerically on
every generated key.
-/
namespace Falcon.Props.C04
open Falcon Falcon.Ntt

/-- base case of NTRUSolve (n = 1): from u·f + v·g = 1, (F, G) = (−v·q, u·q) solves f·G − g·F = q -/
theorem ntru_base {R : Type} [CommRing R] (f g u v q : R) (h : u * f + v * g = 1) :
    f * (u * q) - g * (-v * q) = q := by
  linear_combination q * h

/-- lifting step of the tower: with N(x) = x·σ(x) (σ = the Galois conjugation X ↦ −X), a solution (F', G') for
    (N f, N g) gives the solution (F'·σ g, G'·σ f) for (f, g) -/
theorem ntru_lift {R : Type} [CommRing R] (f g sf sg F' G' q : R)
    (h : (f * sf) * G' - (g * sg) * F' = q) :
    f * (G' * sf) - g * (F' * sg) = q := by
  linear_combination h

/-- size reduction keeps the equation (every quotient; see C17) -/
theorem ntru_reduce {R : Type} [CommRing R] (f g F G k q : R) (h : f * G - g * F = q) :
    f * (G - k * g) - g * (F - k * f) = q := by
  linear_combination h

/-! ### the tower on coefficient lists (models of `field_norm`, `lift_next_cyclotomic`, `galois_adjoint` in polynomial.rs) -/

/-- `field_norm` is the relative norm: N(f)(ρ²) = f(ρ)·f(−ρ) at every root ρ of Xⁿ+1 (n = 2m) in every commutative
    ring; `galois_adjoint` is f(X) ↦ f(−X); `lift_next_cyclotomic` is f(X) ↦ f(X²) -/
theorem tower_maps {R : Type} [CommRing R] (m : Nat) (hm : 0 < m) (f : List Int) (hf : f.length = 2 * m) (ρ : R)
    (hρ : ρ ^ (2 * m) = -1) :
    RingZ.ev (RingZ.fieldNorm (2 * m) f) (ρ * ρ) = RingZ.ev f ρ * RingZ.ev f (-ρ) ∧
    RingZ.ev (RingZ.adjoint f) ρ = RingZ.ev f (-ρ) ∧
    RingZ.ev (RingZ.lift f) ρ = RingZ.ev f (ρ * ρ) :=
  ⟨RingZ.ev_fieldNorm m f hf ρ hρ, RingZ.ev_adjoint f ρ, RingZ.ev_lift f ρ⟩

/-- the lifting step on lists: a solution (F', G') for (N f, N g) at ρ² gives the solution
    (lift F' ⋆ g^⋆, lift G' ⋆ f^⋆) for (f, g) at ρ -/
theorem lift_step_sound {R : Type} [CommRing R] (m : Nat) (hm : 0 < m) (f g cF' cG' : List Int)
    (hf : f.length = 2 * m) (hg : g.length = 2 * m) (ρ : R) (hρ : ρ ^ (2 * m) = -1) (Q : R)
    (h : RingZ.ev (RingZ.fieldNorm (2 * m) f) (ρ * ρ) * RingZ.ev cG' (ρ * ρ) -
         RingZ.ev (RingZ.fieldNorm (2 * m) g) (ρ * ρ) * RingZ.ev cF' (ρ * ρ) = Q) :
    RingZ.ev f ρ * RingZ.ev (RingZ.liftStep (2 * m) f g cF' cG').2 ρ -
      RingZ.ev g ρ * RingZ.ev (RingZ.liftStep (2 * m) f g cF' cG').1 ρ = Q :=
  RingZ.liftStep_sound m hm f g cF' cG' hf hg ρ hρ Q h

/-- **NTRUSolve is sound for every depth**: with the extended gcd (any routine satisfying Bézout's identity) and the
    Babai quotient sequences of every level as parameters — the two ingredients the theorem cannot see into — a
    returned pair has the right lengths and solves f⋆G − g⋆F = q at every root of Xⁿ+1 in every commutative ring, in
    particular in ℤ[X]/(Xⁿ+1) itself -/
theorem ntru_solve_sound {R : Type} [CommRing R] (xg : Int → Int → Int × Int × Int)
    (hx : ∀ a b, (xg a b).2.1 * a + (xg a b).2.2 * b = (xg a b).1)
    (ks : Nat → List Int → List Int → List (List Int)) (d : Nat) (f g cF cG : List Int)
    (hf : f.length = 2 ^ d) (hg : g.length = 2 ^ d) (hs : RingZ.ntruSolve xg ks d f g = some (cF, cG)) :
    cF.length = 2 ^ d ∧ cG.length = 2 ^ d ∧
      ∀ (ρ : R), ρ ^ (2 ^ d) = -1 → RingZ.ev f ρ * RingZ.ev cG ρ - RingZ.ev g ρ * RingZ.ev cF ρ = (12289 : R) :=
  have h := RingZ.ntruSolve_sound (R := R) xg hx ks d f g cF cG hf hg hs
  ⟨h.lenF, h.lenG, h.eq⟩

/-- the extended Euclid loop of `math.rs::xgcd` (model `RingZ.xgcd`, truncating division, compared with the real
    routine through the n = 1 case of `ntru_solve`) terminates and returns Bézout coefficients of its first
    component, which is the gcd up to sign — for all integers -/
theorem xgcd_bezout (a b : Int) :
    (RingZ.xgcd a b).2.1 * a + (RingZ.xgcd a b).2.2 * b = (RingZ.xgcd a b).1 ∧
    (RingZ.xgcd a b).1.natAbs = Int.gcd a b :=
  ⟨RingZ.xgcd_bezout a b, RingZ.xgcd_gcd a b⟩

/-- … so with the real extended gcd only the Babai quotients remain a parameter (they may be anything): every pair
    the recursion returns solves the NTRU equation -/
theorem ntru_solve_sound_with_xgcd {R : Type} [CommRing R]
    (ks : Nat → List Int → List Int → List (List Int)) (d : Nat) (f g cF cG : List Int)
    (hf : f.length = 2 ^ d) (hg : g.length = 2 ^ d) (hs : RingZ.ntruSolve RingZ.xgcd ks d f g = some (cF, cG)) :
    cF.length = 2 ^ d ∧ cG.length = 2 ^ d ∧
      ∀ (ρ : R), ρ ^ (2 ^ d) = -1 → RingZ.ev f ρ * RingZ.ev cG ρ - RingZ.ev g ρ * RingZ.ev cF ρ = (12289 : R) :=
  ntru_solve_sound RingZ.xgcd RingZ.xgcd_bezout ks d f g cF cG hf hg hs

/-- the base case refuses exactly when the loop's gcd is not +1 (`RingZ.ntruBase_eq_some_iff`); a refusal can only lose keys, never produce a
    wrong one; and an accepted base pair has coprime inputs -/
theorem ntru_base_accepts_coprime (a b : Int) (p : Int × Int) (h : RingZ.ntruBase a b = some p) :
    Int.gcd a b = 1 ∧ a * p.2 - b * p.1 = 12289 := by
  obtain ⟨hd, rfl⟩ := RingZ.ntruBase_eq_some_iff.mp h
  refine ⟨by rw [← RingZ.xgcd_gcd, hd]; rfl, ?_⟩
  linear_combination (12289 : Int) * (RingZ.xgcd_bezout a b).trans hd

example : RingZ.ntruBase 2 13 = some (-12289, -6 * 12289) := by decide +kernel
example : RingZ.ntruBase 6 4 = none := by decide +kernel

/-- `vector_karatsuba` (model `RingZ.karatsuba`: three half-size products recombined with overlapping additions,
    schoolbook base case at n ≤ 8; compared with the real function on every run) computes the polynomial product on
    operands of length 2^k, for every k: right length and right value at every point of every commutative ring -/
theorem karatsuba_is_the_product {R : Type} [CommRing R] (k : Nat) (a b : List Int) (ha : a.length = 2 ^ k)
    (hb : b.length = 2 ^ k) :
    (RingZ.karatsuba a b).length = 2 * 2 ^ k - 1 ∧ ∀ ρ : R, RingZ.ev (RingZ.karatsuba a b) ρ = RingZ.ev a ρ * RingZ.ev b ρ :=
  RingZ.karatsuba_spec k a b ha hb

/-- **the product as the code computes it, `a.karatsuba(b).reduce_by_cyclotomic(n)`, is the negacyclic product**
    a ⋆ b of ℤ[X]/(Xⁿ+1), coefficient for coefficient, for n = 2^k (integer lists of length n are determined by their
    values at the roots of Xⁿ+1: `RingZ.ev_ext`, through the ring ℤ[X]/(Xⁿ+1)) -/
theorem code_product_is_negacyclic (k : Nat) (a b : List Int) (ha : a.length = 2 ^ k) (hb : b.length = 2 ^ k) :
    RingZ.kmul (2 ^ k) a b = RingZ.negacyc (2 ^ k) a b := RingZ.kmul_eq_negacyc k a b ha hb

/-- so the lifting step as math.rs computes it is the modelled one -/
theorem lift_step_as_coded (k : Nat) (f g cF' cG' : List Int) (hf : f.length = 2 ^ (k + 1)) (hg : g.length = 2 ^ (k + 1))
    (hF : cF'.length = 2 ^ k) (hG : cG'.length = 2 ^ k) :
    RingZ.liftStepImpl (2 ^ (k + 1)) f g cF' cG' = RingZ.liftStep (2 ^ (k + 1)) f g cF' cG' :=
  RingZ.liftStepImpl_eq k f g cF' cG' hf hg hF hG

/-- `field_norm` as polynomial.rs computes it (schoolbook squares of the even and odd halves, each reduced, the odd one
    shifted by X and reduced again) is the modelled relative norm, for every even length -/
theorem field_norm_as_coded (m : Nat) (hm : 0 < m) (f : List Int) (hf : f.length = 2 * m) :
    RingZ.fieldNormImpl (2 * m) f = RingZ.fieldNorm (2 * m) f := RingZ.fieldNormImpl_eq rfl hm f hf

/-- NTRUSolve at the level of coefficients: every returned pair satisfies f⋆G − g⋆F = (q, 0, …, 0) in ℤ[X]/(Xⁿ+1) —
    the proposition the per-key exact check evaluates -/
theorem ntru_solve_exact (ks : Nat → List Int → List Int → List (List Int)) (d : Nat) (f g cF cG : List Int)
    (hf : f.length = 2 ^ d) (hg : g.length = 2 ^ d) (hs : RingZ.ntruSolve RingZ.xgcd ks d f g = some (cF, cG)) :
    RingZ.ntruLhs (2 ^ d) f g cF cG = (12289 : Int) :: List.replicate (2 ^ d - 1) 0 :=
  ((RingZ.solves_iff_exact (Nat.two_pow_pos _)).mp fun _ _ =>
    RingZ.ntruSolve_sound RingZ.xgcd RingZ.xgcd_bezout ks d f g cF cG hf hg hs).2.2

example : RingZ.kmul 2 [1, 2] [3, 4] = [-5, 10] ∧ RingZ.negacyc 2 [1, 2] [3, 4] = [-5, 10] := by decide

/-- **the executable model of `ntru_solve`** (`Keygen.ntruSolveBig`: the recursion with `field_norm`, the lifting step
    through Karatsuba, `babai_reduce_bigint` with its floating-point quotients and the extended gcd — the model whose
    whole key generation reproduces the real one bit for bit on every compared seed) **returns only solutions of the NTRU
    equation**: for every depth and every f, g of length 2^d, whatever the floating-point arithmetic inside the Babai
    reduction computes, a returned pair has the right lengths and f⋆G − g⋆F = (q, 0, …, 0) in ℤ[X]/(Xⁿ+1) -/
theorem model_ntru_solve_sound (d : Nat) (f g cF cG : List Int) (hf : f.length = 2 ^ d) (hg : g.length = 2 ^ d)
    (hs : Keygen.ntruSolveBig d f g = some (cF, cG)) :
    cF.length = 2 ^ d ∧ cG.length = 2 ^ d ∧
    RingZ.ntruLhs (2 ^ d) f g cF cG = (12289 : Int) :: List.replicate (2 ^ d - 1) 0 :=
  (RingZ.solves_iff_exact (Nat.two_pow_pos _)).mp fun _ _ => Keygen.ntruSolveBig_sound d f g cF cG hf hg hs

/-- and `babai_reduce_bigint` as modelled (floating-point quotients included) leaves f⋆G − g⋆F unchanged at every root
    of Xⁿ+1 in every commutative ring, for every input pair -/
theorem model_babai_reduce_preserves_ntru {R : Type} [CommRing R] (j : Nat) (f g cF cG : List Int)
    (hf : f.length = 2 ^ j) (hg : g.length = 2 ^ j) (h1 : cF.length = 2 ^ j) (h2 : cG.length = 2 ^ j) (ρ : R)
    (hρ : ρ ^ (2 ^ j) = -1) :
    RingZ.ev f ρ * RingZ.ev (Keygen.babaiBig f g cF cG).2.2 ρ - RingZ.ev g ρ * RingZ.ev (Keygen.babaiBig f g cF cG).2.1 ρ =
      RingZ.ev f ρ * RingZ.ev cG ρ - RingZ.ev g ρ * RingZ.ev cF ρ :=
  (Keygen.babaiBig_multiple j hf hg h1 h2).ntru hf hg h1 h2 ρ hρ

/-- every key the executable model of `ntru_gen` returns went through all four guards: coefficients of f, g below the
    format's limit, no zero NTT slot of f (f invertible mod q), Gram–Schmidt norm not above 1.3689·q (as the floating-point
    computation sees it), solved by the modelled `ntru_solve_entrypoint`, and |F|, |G| ≤ 127 -/
theorem model_keys_pass_all_guards (chk : Bool) (n : Nat) (seed : List Nat) (f g cF cG : List Int) (k : Nat)
    (h : Keygen.ntruGen chk n seed = .ok (.key f g cF cG k)) : Keygen.Accepted chk n f g cF cG :=
  Keygen.ntruGen_accepted chk n seed f g cF cG k h

/-- **the 32-bit top level inside its exactness window**: `babai_reduce_i32` as modelled (Z_p transforms for the products
    k⋆f, k⋆g, i32 subtractions, floating-point quotients) is total in both build modes and leaves f⋆G − g⋆F unchanged at
    every root of Xⁿ+1, for every n = 2…1024, whenever the executable window predicate of the run holds (every round:
    k within (−p, p), k⋆f and k⋆g within ±(p−1)/2, the subtraction within i32) -/
theorem babai_reduce_i32_sound_in_window {R : Type} [CommRing R] (chk : Bool) (d : Nat) (hd : d ≤ 10) (hd1 : 1 ≤ d)
    (f g cF cG : List Int) (lf : f.length = 2 ^ d) (lg : g.length = 2 ^ d) (h1 : cF.length = 2 ^ d) (h2 : cG.length = 2 ^ d)
    (hw : Keygen.babaiI32W f g cF cG = true) :
    ∃ okf a b, Keygen.babaiI32 chk f g cF cG = .ok (okf, a, b) ∧ a.length = 2 ^ d ∧ b.length = 2 ^ d ∧
      ∀ (ρ : R), ρ ^ (2 ^ d) = -1 →
        RingZ.ev f ρ * RingZ.ev b ρ - RingZ.ev g ρ * RingZ.ev a ρ = RingZ.ev f ρ * RingZ.ev cG ρ - RingZ.ev g ρ * RingZ.ev cF ρ := by
  obtain ⟨okf, a, b, hrun, hm⟩ := Keygen.babaiI32_multiple chk d hd hd1 lf lg h1 h2 hw
  exact ⟨okf, a, b, hrun, hm.lengthF lf h1, hm.lengthG lg h2, fun ρ hρ => hm.ntru lf lg h1 h2 ρ hρ⟩

/-- … and changes (F, G) only by an integer-polynomial multiple of (f, g) (C17's first sentence for the 32-bit version,
    inside the window): the loop returns (F − K⋆f, G − K⋆g) for one integer polynomial K, coefficient for coefficient -/
theorem babai_reduce_i32_changes_by_a_multiple_in_window (chk : Bool) (d : Nat) (hd : d ≤ 10) (hd1 : 1 ≤ d) (size : Nat)
    (f g : List Int) (lf : f.length = 2 ^ d) (lg : g.length = 2 ^ d) (pf : Keygen.inP f = true) (pg : Keygen.inP g = true)
    (fStar gStar den : List FftFlt.C) (hfs : fStar.length = 2 ^ d) (hgs : gStar.length = 2 ^ d) (hden : den.length = 2 ^ d)
    (fuel : Nat) (cF cG : List Int) (h1 : cF.length = 2 ^ d) (h2 : cG.length = 2 ^ d)
    (hw : Keygen.babaiI32Window (2 ^ d) d size f g fStar gStar den fuel cF cG = true) :
    ∃ okf a b K, Keygen.babaiI32Loop chk d size (Zp.ntt d (Keygen.toZp' f)) (Zp.ntt d (Keygen.toZp' g)) fStar gStar den fuel cF cG
        = .ok (okf, a, b) ∧ K.length = 2 ^ d ∧
      a = RingZ.subL cF (RingZ.negacyc (2 ^ d) K f) ∧ b = RingZ.subL cG (RingZ.negacyc (2 ^ d) K g) := by
  obtain ⟨okf, a, b, hrun, hm⟩ := Keygen.babaiI32Loop_multiple chk d hd hd1 size lf lg hfs hgs hden fuel cF cG h1 h2 hw
  obtain ⟨K, hK⟩ := hm.reduced (Nat.two_pow_pos _) lf lg
  exact ⟨okf, a, b, K, hrun, hK⟩

/-- **`ntru_solve_entrypoint` returns only solutions of the NTRU equation inside its window**: the recursion below it is
    sound unconditionally (`model_ntru_solve_sound`); the lifting products and the reduction at the top run in 32 bits
    and are exact while `Keygen.entryWindow f g` — an executable predicate the driver evaluates on every generated key —
    holds; then f⋆G − g⋆F = (q, 0, …, 0) coefficient for coefficient, both build modes -/
theorem entry_level_sound_in_window (chk : Bool) (j : Nat) (hj : j + 1 ≤ 10) (f g cF cG : List Int)
    (lf : f.length = 2 ^ (j + 1)) (lg : g.length = 2 ^ (j + 1)) (hw : Keygen.entryWindow f g = true)
    (hs : Keygen.ntruSolveEntry chk f g = .ok (some (cF, cG))) :
    cF.length = 2 ^ (j + 1) ∧ cG.length = 2 ^ (j + 1) ∧
    RingZ.ntruLhs (2 ^ (j + 1)) f g cF cG = (12289 : Int) :: List.replicate (2 ^ (j + 1) - 1) 0 := by
  refine (RingZ.solves_iff_exact (Nat.two_pow_pos _)).mp fun R _ => ?_
  obtain ⟨r, hr, hall⟩ := Keygen.ntruSolveEntry_sound (R := R) chk j hj f g lf lg hw
  exact hall cF cG (Res.ok.inj (hr.symm.trans hs))

/-- **every key the modelled key generation returns is a valid NTRU trapdoor** — for every seed and both variants:
    f, g, F, G have N coefficients, f⋆G − g⋆F = q exactly over ℤ[X]/(X^N+1), no NTT slot of f is zero (f invertible
    modulo q) and |F_i|, |G_i| ≤ 127.  The only hypothesis beyond "the model returned this key" is the window of the
    32-bit top level for this (f, g), evaluated by the driver on every generated key (`window=ok`). -/
theorem model_generated_keys_are_ntru_trapdoors (chk : Bool) (N j : Nat) (hN : (N = 512 ∧ j = 8) ∨ (N = 1024 ∧ j = 9))
    (seed : List Nat) (f g cF cG : List Int) (k : Nat)
    (h : Keygen.ntruGen chk N seed = .ok (.key f g cF cG k)) (hw : Keygen.entryWindow f g = true) :
    f.length = N ∧ g.length = N ∧ cF.length = N ∧ cG.length = N ∧
    RingZ.ntruLhs N f g cF cG = (12289 : Int) :: List.replicate (N - 1) 0 ∧
    (∀ x ∈ Ntt.ntt (j + 1) (Ntt.toZq f), x ≠ 0) ∧ (∀ c ∈ cF ++ cG, c.natAbs ≤ 127) := by
  obtain ⟨rfl, hj, hN'⟩ := variant_pow (variant_succ hN)
  -- `gen_poly` draws 4096 samples and adds them up in groups of 4096 / N
  have hdiv : Gen.genPolyNumCoefficients = Gen.genPolyNumCoefficients / 2 ^ (j + 1) * 2 ^ (j + 1) := by
    rcases hN' with e | e <;> rw [e] <;> decide
  obtain ⟨lf, lg⟩ := Keygen.ntruGen_lengths chk _ (Nat.two_pow_pos _) hdiv seed f g cF cG k h
  obtain ⟨_, hinv, _, hent, hcap⟩ := Keygen.ntruGen_accepted chk _ seed f g cF cG k h
  obtain ⟨lF, lG, hntru⟩ := entry_level_sound_in_window chk j hj f g cF cG lf lg hw hent
  rw [FftFlt.log2_pow] at hinv
  exact ⟨lf, lg, lF, lG, hntru, hinv, hcap⟩

/-- non-vacuity: the model of NTRUSolve on (f, g) = (1 + X, 3 + 2X) (n = 2; N f = 2, N g = 13, −6·2 + 1·13 = 1, no Babai
    rounds) returns a pair that solves the equation over ℤ -/
example : RingZ.ntruSolve (fun _ _ => (1, -6, 1)) (fun _ _ _ => []) 1 [1, 1] [3, 2] =
      some ([-36867, 24578], [-73734, 73734]) ∧
    RingZ.ntruLhs 2 [1, 1] [3, 2] [-36867, 24578] [-73734, 73734] = [12289, 0] := by decide

/-- **public key relation**: if ntt h ⊙ ntt f = ntt g pointwise then h ⋆ f = g in Z_q[X]/(X^n+1) -/
theorem public_key_relation (d : Nat) (hd : d ≤ 10) (h f g : List Nat)
    (hlh : h.length = 2 ^ d) (hlf : f.length = 2 ^ d) (hlg : g.length = 2 ^ d) (hcg : ∀ x ∈ g, x < 12289)
    (hrel : hadamard (ntt d h) (ntt d f) = ntt d g) :
    negacyc (2 ^ d) h f = g :=
  Ntt.negacyc_of_hadamard d hd h f g hlh hlf hlg hcg hrel

/-- the forward transform undoes the inverse transform (the direction C11 does not state): for every n = 2^d ≤ 1024
    and every canonical v of length n, `ifft` does not panic and `fft(ifft(v)) = v` — with C11's `intt_ntt` the two
    transforms are mutually inverse bijections, which is what makes division in the transform domain meaningful -/
theorem forward_transform_undoes_inverse (d : Nat) (hd : d ≤ 10) (v : List Nat) (hl : v.length = 2 ^ d)
    (hc : ∀ x ∈ v, x < 12289) :
    ∃ a, intt d v = .ok a ∧ ntt d a = v ∧ a.length = 2 ^ d ∧ ∀ x ∈ a, x < 12289 :=
  Ntt.ntt_intt d hd v hl hc

/-- **the public key the code derives is g·f⁻¹**: `h = intt(ntt g ⊙ batch_inverse_or_zero(ntt f))` — for every
    n = 2^d ≤ 1024, every canonical f whose transform has no zero slot (the invertibility guard of `ntru_gen`) and every
    g, in both build modes, the derivation does not panic and returns a canonical h of length n with
    h ⋆ f = g in Z_q[X]/(Xⁿ+1).  (Uses `Ntt.ntt_intt`: the forward transform undoes the inverse transform.) -/
theorem public_key_is_g_over_f (chk : Bool) (d : Nat) (hd : d ≤ 10) (f g : List Nat)
    (lf : f.length = 2 ^ d) (lg : g.length = 2 ^ d) (cf : ∀ x ∈ f, x < 12289) (cg : ∀ x ∈ g, x < 12289)
    (hinv : ∀ x ∈ ntt d f, x ≠ 0) :
    ∃ finv h, Zq.batchInv chk (ntt d f) = .ok finv ∧ intt d (hadamard (ntt d g) finv) = .ok h ∧
      h.length = 2 ^ d ∧ (∀ x ∈ h, x < 12289) ∧ negacyc (2 ^ d) h f = g := by
  obtain ⟨finv, h, h1, h2, h3, h4, h5, _⟩ := Ntt.public_key_is_g_over_f chk d hd f g lf lg cf cg hinv
  exact ⟨finv, h, h1, h2, h3, h4, h5⟩

/-- **both relations verification needs follow from the NTRU equation**: for every (f, g, F, G) with f⋆G − g⋆F = q
    over ℤ and an NTT-invertible f, the derived public key satisfies h ⋆ f = g and h ⋆ F = G mod q — so the
    hypotheses of C01's `honest_signature_verifies` hold for every valid trapdoor, not only for keys that were
    checked one by one -/
theorem derived_key_relations (chk : Bool) (d : Nat) (hd : d ≤ 10) (f g cF cG : List Int)
    (lf : f.length = 2 ^ d) (lg : g.length = 2 ^ d) (lF : cF.length = 2 ^ d) (lG : cG.length = 2 ^ d)
    (hntru : RingZ.ntruLhs (2 ^ d) f g cF cG = (12289 : Int) :: List.replicate (2 ^ d - 1) 0)
    (hinv : ∀ x ∈ ntt d (toZq f), x ≠ 0) :
    ∃ finv h, Zq.batchInv chk (ntt d (toZq f)) = .ok finv ∧ intt d (hadamard (ntt d (toZq g)) finv) = .ok h ∧
      h.length = 2 ^ d ∧ (∀ x ∈ h, x < 12289) ∧
      negacyc (2 ^ d) h (toZq f) = toZq g ∧ negacyc (2 ^ d) h (toZq cF) = toZq cG :=
  Ntt.derived_key_relations chk d hd f g cF cG lf lg lF lG hntru hinv

/-- non-vacuity (n = 2): f = 1 + X has no zero slot, g = 3 + 2X; the derived h satisfies h ⋆ f = g -/
example : (ntt 1 [1, 1]).all (· != 0) = true ∧
    (match Zq.batchInv true (ntt 1 [1, 1]) with
     | .ok finv => (match intt 1 (hadamard (ntt 1 [3, 2]) finv) with
        | .ok h => negacyc 2 h [1, 1] == [3, 2]
        | _ => false)
     | _ => false) = true := by decide

/-- the acceptance bound on the Gram-Schmidt norm is the specification's (1.17²·q: the literal 1.3689), the
    invertibility guard tests every NTT coefficient of f, and the range guards are the reference's -/
theorem keygen_guard_constants :
    Gen.gammaBoundBits = 4608843796702554384 ∧ Gen.invertibilityGuardAll = true ∧
    Gen.fgGuardGe = true ∧ Gen.capGuardGe = false ∧ Gen.capGuardLimit = 127 := ⟨rfl, rfl, rfl, rfl, rfl⟩

/-- the constants that decide the leaf range: the tree is normalised with the specification's σ of the variant
    (165.7366171829776 / 168.38857144654395), the lower end is the specification's σ_min, the acceptance bound is 1.3689
    (IEEE bit patterns of the literals); that "γ ≤ 1.3689 q ⇒ every leaf ≥ σ_min" holds is not decided here -/
theorem leaf_range_constants :
    Gen.sigmaBits512 = 4640035355371950575 ∧ Gen.sigminBits512 = 4608433670533905013 ∧
    Gen.sigmaBits1024 = 4640128662717522458 ∧ Gen.sigminBits1024 = 4608525754002622308 ∧
    Gen.gammaBoundBits = 4608843796702554384 := ⟨rfl, rfl, rfl, rfl, rfl⟩

/-- what the executable check on each generated key asserts, stated as a proposition -/
theorem keyCheck_ok_means (n : Nat) (f g cF cG : List Int) (h : List Nat) (hk : KeygenSkel.keyCheck n f g cF cG h = "ok") :
    RingZ.ntruLhs n f g cF cG = (12289 : Int) :: List.replicate (n - 1) 0 :=
  (Ntt.keyCheck_ok hk).1

/-- … and its two public-key clauses: a key the check accepts satisfies h⋆f = g and h⋆F = G in Z_q[X]/(X^n+1),
    exactly the hypotheses of `C01.honest_signature_verifies` -/
theorem keyCheck_ok_relations (d : Nat) (hd : d ≤ 10) (f g cF cG : List Int) (h : List Nat)
    (lf : f.length = 2 ^ d) (lg : g.length = 2 ^ d) (lF : cF.length = 2 ^ d) (lG : cG.length = 2 ^ d)
    (lh : h.length = 2 ^ d)
    (hk : KeygenSkel.keyCheck (2 ^ d) f g cF cG h = "ok") :
    negacyc (2 ^ d) h (f.map Zq.new) = g.map Zq.new ∧ negacyc (2 ^ d) h (cF.map Zq.new) = cG.map Zq.new := by
  obtain ⟨_, h3, h4⟩ := Ntt.keyCheck_ok hk
  rw [Ntt.log2_pow] at h3 h4
  exact ⟨public_key_relation d hd h _ _ lh (toZq_length lf) (toZq_length lg) (toZq_lt g) h3,
    public_key_relation d hd h _ _ lh (toZq_length lF) (toZq_length lG) (toZq_lt cG) h4⟩

/-- non-vacuity: a tiny NTRU quadruple (n = 2, q = 12289) passes the exact check's first clause -/
example : RingZ.ntruLhs 2 [1, 0] [0, 1] [0, 0] [12289, 0] = [12289, 0] := by decide

end Falcon.Props.C04

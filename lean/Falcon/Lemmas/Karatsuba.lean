import Falcon.Lemmas.TowerAlg
import Falcon.Lemmas.EvExt

/-!
`vector_karatsuba` (recursive three-multiplication scheme with the schoolbook base case at n ≤ 8) followed by
`reduce_by_cyclotomic(n)` is the negacyclic product on operands of length n = 2^k — first at every root of Xⁿ+1
(polynomial identity of Karatsuba's recombination), then as coefficient lists by `ev_ext`.  Hence the three places that
multiply this way are the specification's: `liftStepImpl_eq`, `babaiStepImpl_eq`, `fieldNormImpl_eq`.
-/
namespace Falcon.RingZ
variable {R : Type} [CommRing R]

-- the patterns of `addPad` and `school` overlap: rewriting with a later equation leaves "no earlier one applied", closed by `nofun`
theorem ev_addPad : ∀ (a b : List Int) (ρ : R), ev (addPad a b) ρ = ev a ρ + ev b ρ
  | [], b, ρ => by rw [addPad, ev_nil, zero_add]
  | x :: a, [], ρ => by rw [addPad, ev_nil, add_zero]; exact nofun
  | x :: a, y :: b, ρ => by rw [addPad, ev_cons, ev_cons, ev_cons, ev_addPad a b ρ, Int.cast_add]; ring

theorem addPad_length : ∀ (a b : List Int), (addPad a b).length = max a.length b.length
  | [], b => by rw [addPad, List.length_nil, Nat.zero_max]
  | x :: a, [] => by rw [addPad, List.length_nil, Nat.max_zero]; exact nofun
  | x :: a, y :: b => by
    rw [addPad, List.length_cons, addPad_length a b, List.length_cons, List.length_cons, Nat.succ_max_succ]

theorem addPad_length_of_le {a b : List Int} {m : Nat} (ha : a.length = m) (hb : b.length ≤ m) : (addPad a b).length = m := by
  rw [addPad_length, ha, Nat.max_eq_left hb]

theorem ev_school : ∀ (a b : List Int) (ρ : R), ev (school a b) ρ = ev a ρ * ev b ρ
  | [], b, ρ => by simp [school, ev_nil]
  | [x], b, ρ => by simp [school, ev_smulL, ev_cons, ev_nil]
  | x :: y :: xs, b, ρ => by
    rw [school, ev_addPad, ev_smulL, ev_cons 0, ev_school (y :: xs) b ρ, ev_cons x, Int.cast_zero]
    · ring
    · exact nofun

theorem school_length : ∀ (a b : List Int), 0 < a.length → (school a b).length + 1 = a.length + b.length
  | [], _, h => by simp at h
  | [x], b, _ => by rw [school, smulL_length, List.length_singleton, Nat.add_comm]
  | x :: y :: xs, b, _ => by
    rw [school, addPad_length, smulL_length, List.length_cons, school_length (y :: xs) b (Nat.succ_pos _),
      Nat.max_eq_right (Nat.le_add_left _ _), Nat.add_right_comm]
    · rfl
    · exact nofun

/-- Karatsuba's recombination `lo + X^h·mid + X^2h·hi` in a zeroed buffer -/
theorem ev_recombine (m h : Nat) (lo mid hi : List Int) (ρ : R) :
    ev (addPad (addPad (addPad (List.replicate m 0) lo) (List.replicate h 0 ++ mid)) (List.replicate (2 * h) 0 ++ hi)) ρ =
      ev lo ρ + ρ ^ h * ev mid ρ + ρ ^ h * ρ ^ h * ev hi ρ := by
  simp only [ev_addPad, ev_append, ev_replicate_zero, List.length_replicate, two_mul, pow_add]
  ring

theorem recombine_length {m h l : Nat} {lo mid hi : List Int} (hm : 2 * h + l ≤ m) (llo : lo.length = l)
    (lmid : mid.length = l) (lhi : hi.length = l) :
    (addPad (addPad (addPad (List.replicate m 0) lo) (List.replicate h 0 ++ mid)) (List.replicate (2 * h) 0 ++ hi)).length = m := by
  refine addPad_length_of_le (addPad_length_of_le (addPad_length_of_le List.length_replicate ?_) ?_) ?_
  · rw [llo]; exact Nat.le_trans (Nat.le_add_left l (2 * h)) hm
  · rw [List.length_append, List.length_replicate, lmid]
    exact Nat.le_trans (Nat.add_le_add_right (Nat.le_mul_of_pos_left h Nat.two_pos) l) hm
  · rw [List.length_append, List.length_replicate, lhi]; exact hm

/-- the high product, 2H − 1 long at offset 2H, ends where the buffer of 2·(2H) − 1 cells ends -/
theorem recombine_fits {H : Nat} (hH : 0 < H) : 2 * H + (2 * H - 1) ≤ 2 * (2 * H) - 1 := by
  rw [Nat.two_mul (2 * H), Nat.add_sub_assoc (Nat.mul_pos Nat.two_pos hH)]

theorem ev_halves {a : List Int} {h : Nat} (ha : a.length = 2 * h) (ρ : R) :
    ev a ρ = ev (a.take h) ρ + ρ ^ h * ev (a.drop h) ρ := by
  rw [ev_take_drop h a ρ, ha, Nat.min_eq_left (Nat.le_mul_of_pos_left h Nat.two_pos)]

theorem karatsubaGo_spec : ∀ (fuel k : Nat) (a b : List Int), a.length = 2 ^ k → b.length = 2 ^ k →
    (karatsubaGo fuel a b).length = 2 * 2 ^ k - 1 ∧ ∀ ρ : R, ev (karatsubaGo fuel a b) ρ = ev a ρ * ev b ρ := by
  have base (k : Nat) (a b : List Int) (ha : a.length = 2 ^ k) (hb : b.length = 2 ^ k) :
      (school a b).length = 2 * 2 ^ k - 1 ∧ ∀ ρ : R, ev (school a b) ρ = ev a ρ * ev b ρ := by
    exact ⟨Nat.eq_sub_of_add_eq (by rw [school_length a b (ha ▸ Nat.two_pow_pos k), ha, hb, Nat.two_mul]), ev_school a b⟩
  intro fuel
  induction fuel with
  | zero => exact base
  | succ fuel ih =>
    intro k a b ha hb
    rw [karatsubaGo]
    by_cases h8 : a.length ≤ 8
    · rw [if_pos h8]
      exact base k a b ha hb
    rw [if_neg h8]
    obtain ⟨j, rfl⟩ : ∃ j, k = j + 1 := by
      cases k with
      | zero => rw [ha] at h8; exact absurd (by decide) h8
      | succ j => exact ⟨j, rfl⟩
    rw [pow_succ'] at ha hb ⊢
    rw [ha, Nat.mul_div_cancel_left _ (by decide : 0 < 2)]
    obtain ⟨hat, had⟩ := FftFlt.halves_length_two_mul ha
    obtain ⟨hbt, hbd⟩ := FftFlt.halves_length_two_mul hb
    obtain ⟨llo, elo⟩ := ih j _ _ hat hbt
    obtain ⟨lhi, ehi⟩ := ih j _ _ had hbd
    obtain ⟨lmid, emid⟩ := ih j (addL (a.take (2 ^ j)) (a.drop (2 ^ j))) (addL (b.take (2 ^ j)) (b.drop (2 ^ j)))
      (addL_length hat had) (addL_length hbt hbd)
    have lsum := addL_length llo lhi
    refine ⟨recombine_length (recombine_fits (Nat.two_pow_pos j)) llo (subL_length lmid lsum) lhi, fun ρ => ?_⟩
    rw [ev_recombine, ev_subL lmid lsum, ev_addL llo lhi, elo, ehi, emid, ev_addL hat had, ev_addL hbt hbd,
      ev_halves ha ρ, ev_halves hb ρ]
    ring

theorem karatsuba_spec (k : Nat) (a b : List Int) (ha : a.length = 2 ^ k) (hb : b.length = 2 ^ k) :
    (karatsuba a b).length = 2 * 2 ^ k - 1 ∧ ∀ ρ : R, ev (karatsuba a b) ρ = ev a ρ * ev b ρ :=
  karatsubaGo_spec _ k a b ha hb

theorem reduceCycGo_length (n : Nat) : ∀ (fuel : Nat) (p : List Int), (reduceCycGo n fuel p).length = n
  | 0, _ => by simp [reduceCycGo]
  | fuel + 1, p => by
    rw [reduceCycGo]
    split
    · simp
    · simp only [addPad_length, List.length_replicate, negL_length, reduceCycGo_length n fuel, List.length_take]
      omega

theorem ev_reduceCycGo (n : Nat) (hn : 0 < n) (ρ : R) (hρ : ρ ^ n = -1) : ∀ (fuel : Nat) (p : List Int), p.length < fuel →
    ev (reduceCycGo n fuel p) ρ = ev p ρ
  | 0, _, h => absurd h (Nat.not_lt_zero _)
  | fuel + 1, p, h => by
    rw [reduceCycGo]
    split
    · rename_i he
      rw [List.isEmpty_iff.mp he, ev_replicate_zero, ev_nil]
    · rename_i he
      have hpos : 0 < p.length := List.length_pos_iff.mpr fun h0 => he (List.isEmpty_iff.mpr h0)
      -- the rest is shorter: n > 0 and p is not empty
      have hdrop : (p.drop n).length < fuel :=
        List.length_drop ▸ Nat.lt_of_lt_of_le (Nat.sub_lt hpos hn) (Nat.le_of_lt_succ h)
      rw [ev_addPad, ev_addPad, ev_replicate_zero, ev_negL, ev_reduceCycGo n hn ρ hρ fuel (p.drop n) hdrop]
      -- p = (first block) ++ rest, and ρⁿ = −1 in front of a rest that is not empty
      rw [ev_take_drop n p ρ]
      by_cases hl : n ≤ p.length
      · rw [Nat.min_eq_left hl, hρ]; ring
      · rw [List.drop_eq_nil_of_le (Nat.le_of_not_le hl), ev_nil]; ring

theorem reduceCyc_length (n : Nat) (p : List Int) : (reduceCyc n p).length = n := reduceCycGo_length n _ _

theorem ev_reduceCyc (n : Nat) (hn : 0 < n) (p : List Int) (ρ : R) (hρ : ρ ^ n = -1) : ev (reduceCyc n p) ρ = ev p ρ :=
  ev_reduceCycGo n hn ρ hρ _ p (by omega)

theorem kmul_length (n : Nat) (a b : List Int) : (kmul n a b).length = n := reduceCyc_length n _

theorem ev_kmul (k : Nat) (a b : List Int) (ha : a.length = 2 ^ k) (hb : b.length = 2 ^ k) (ρ : R) (hρ : ρ ^ (2 ^ k) = -1) :
    ev (kmul (2 ^ k) a b) ρ = ev a ρ * ev b ρ := by
  rw [kmul, ev_reduceCyc _ (Nat.two_pow_pos _) _ ρ hρ]
  exact (karatsuba_spec k a b ha hb).2 ρ

/-- `a.karatsuba(b).reduce_by_cyclotomic(n)` = a ⋆ b in ℤ[X]/(Xⁿ+1) -/
theorem kmul_eq_negacyc (k : Nat) (a b : List Int) (ha : a.length = 2 ^ k) (hb : b.length = 2 ^ k) :
    kmul (2 ^ k) a b = negacyc (2 ^ k) a b := by
  have hp : 0 < 2 ^ k := Nat.two_pow_pos k
  apply ev_ext (2 ^ k) hp _ _ (kmul_length _ a b) (negacyc_length _ a b hb)
  intro R _ ρ hρ
  rw [ev_kmul k a b ha hb ρ hρ, ev_negacyc _ a b hb ρ hρ]

theorem liftStepImpl_eq (k : Nat) (f g cF' cG' : List Int) (hf : f.length = 2 ^ (k + 1)) (hg : g.length = 2 ^ (k + 1))
    (hF : cF'.length = 2 ^ k) (hG : cG'.length = 2 ^ k) :
    liftStepImpl (2 ^ (k + 1)) f g cF' cG' = liftStep (2 ^ (k + 1)) f g cF' cG' := by
  have e : 2 ^ (k + 1) = 2 * 2 ^ k := Nat.pow_succ'
  unfold liftStepImpl liftStep
  rw [kmul_eq_negacyc (k + 1) _ _ (by rw [lift_length, hF, e]) (by rw [adjoint_length, hg]),
    kmul_eq_negacyc (k + 1) _ _ (by rw [lift_length, hG, e]) (by rw [adjoint_length, hf])]

theorem babaiStepImpl_eq (k : Nat) (f g : List Int) (FG : List Int × List Int) (q : List Int) (hf : f.length = 2 ^ k)
    (hg : g.length = 2 ^ k) (hq : q.length = 2 ^ k) :
    babaiStepImpl (2 ^ k) f g FG q = babaiStep (2 ^ k) f g FG q := by
  unfold babaiStepImpl babaiStep
  rw [kmul_eq_negacyc k _ _ hq hf, kmul_eq_negacyc k _ _ hq hg]

theorem fieldNormImpl_eq {n m : Nat} (hn : n = 2 * m) (hm : 0 < m) (f : List Int) (hf : f.length = n) :
    fieldNormImpl n f = fieldNorm n f := by
  subst hn
  have hdiv : 2 * m / 2 = m := Nat.mul_div_cancel_left m (by decide)
  have hl : (fieldNormImpl (2 * m) f).length = m := by
    rw [fieldNormImpl, hdiv]
    exact subL_length (reduceCyc_length m _) (reduceCyc_length m _)
  refine ev_ext m hm _ _ hl (fieldNorm_length rfl f hf) fun R _ σ hσ => ?_
  rw [ev_fieldNorm_parts m f hf σ hσ, fieldNormImpl, hdiv, ev_subL (reduceCyc_length m _) (reduceCyc_length m _),
    ev_reduceCyc m hm _ σ hσ, ev_reduceCyc m hm _ σ hσ, ev_school, ev_school, ev_reduceCyc m hm _ σ hσ, ev_school]
  -- the code multiplies by X as the polynomial [0, 1]
  simp only [ev_cons, ev_nil]
  push_cast
  ring

end Falcon.RingZ

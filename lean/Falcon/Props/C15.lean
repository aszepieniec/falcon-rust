import Falcon.Gen.Scan
import Falcon.Model.Keygen
import Falcon.Lemmas.ChaChaStream
import Falcon.Lemmas.GenPolyStream

/-!
# C15 — key generation is a deterministic function of the seed

In the model, key generation *is* a function of the seed (`KeygenSkel.firstCandidate` computes the first
candidate polynomials from the 32 seed bytes through ChaCha12 and the sampler), so determinism is
definitional; what is checked on every run is the tie: (1) the model's candidates computed from the seed equal
those the real `ntru_gen` draws, (2) the only places where the library touches an entropy source, a clock,
a global or interior-mutable state (scanned from the source by the translator) are `SecretKey::generate` and
`sign` — nothing reachable from `generate_from_seed`, (3) byte-identical keys across threads, processes and
build profiles.  Seed sensitivity (every bit matters) is sampled on the candidate stage, not proved: it is a
statement about ChaCha12.

Stated here: the scanned list of entropy sites and the constants of `gen_poly` (pins of the extraction); that the candidate
stage and the whole modelled `ntru_gen` take the seed and nothing else; that the blocks the model opens for a candidate are
the one ChaCha12 keystream of the seed, from the byte where the previous candidate stopped (`candidate_window_is_the_keystream`,
`keystream_is_one_stream`); and that `gen_poly` hands back its input stream minus a prefix (`gen_poly_reads_a_prefix`).
-/
namespace Falcon.Props.C15
open Falcon

/-- the complete list of entropy / clock / global-state uses outside `#[cfg(test)]`, by file and source text:
    `SecretKey::generate` (which only draws the seed) and `sign` -/
theorem entropy_sources_are_only_generate_and_sign :
    Gen.entropySites.map (fun s => (s.1, s.2.2)) =
      [("falcon.rs", "Self::generate_from_seed(thread_rng().gen())"),
       ("falcon.rs", "let mut rng = thread_rng();")] := rfl

/-- the key-generation parameters of `gen_poly` are the specification's (σ* = 1.17·√(q/8192), 4096 samples) -/
theorem gen_poly_constants :
    Gen.genPolyNumCoefficients = 4096 ∧ Gen.genPolySigmaStarBits = 4609132521597759000 := ⟨rfl, rfl⟩

/-- the model's candidate stage is a function of (mode, degree, seed) alone -/
theorem candidates_are_a_function_of_the_seed (chk : Bool) (n : Nat) (s1 s2 : List Nat) (h : s1 = s2) :
    KeygenSkel.firstCandidate chk n s1 = KeygenSkel.firstCandidate chk n s2 := by rw [h]

/-- the whole modelled key generation (`Model/Keygen.ntruGen`: candidate loop with its four guards, `ntru_solve`, both
    Babai reductions — byte-identical with the real `keygen` on every compared seed) takes the build mode, the degree
    and the 32 seed bytes and nothing else: it has no other argument, reads no state and is a total function, so two
    runs on the same seed return the same (f, g, F, G) -/
theorem keygen_model_is_a_function_of_the_seed (chk : Bool) (n : Nat) (s1 s2 : List Nat) (h : s1 = s2) :
    Keygen.ntruGen chk n s1 = Keygen.ntruGen chk n s2 := by rw [h]

/-- **the candidates are drawn consecutively from ONE ChaCha12 keystream of the seed**: the window of blocks that the
    model of `ntru_gen` opens for a candidate at byte offset `off` (where the previous candidate stopped reading) is
    exactly the keystream `StdRng::from_seed(seed)` yields from byte `off` on — no re-seeding, no second stream, no
    bytes skipped or read twice between candidates -/
theorem candidate_window_is_the_keystream (seed : List Nat) (off nb : Nat) :
    (ChaCha.byteStreamFrom seed (off / 16) nb).drop (off % 16) = (ChaCha.byteStream seed (off / 16 + nb)).drop off :=
  ChaCha.window_at_offset seed off nb

/-- … and the keystream does not depend on how far it was expanded -/
theorem keystream_is_one_stream (seed : List Nat) (a b : Nat) :
    ChaCha.byteStream seed (a + b) = ChaCha.byteStream seed a ++ ChaCha.byteStreamFrom seed a b ∧
    (ChaCha.byteStream seed (a + b)).take (16 * a) = ChaCha.byteStream seed a :=
  ⟨ChaCha.byteStream_add seed a b, ChaCha.keystream_prefix seed a b⟩

/-- what `gen_poly` leaves unread is its input stream minus a prefix — g is drawn exactly where f stopped, and the next
    candidate where g stopped (with `candidate_window_is_the_keystream`: all of them consecutively from the one keystream
    of the seed) -/
theorem gen_poly_reads_a_prefix (chk : Bool) (n : Nat) (stream : List Nat) (p : List Int) (rest : List Nat)
    (h : KeygenSkel.genPoly chk n stream = .ok (some (p, rest))) : ∃ k, rest = stream.drop k :=
  (KeygenSkel.genPoly_spec chk n stream p rest h).2

end Falcon.Props.C15

import Falcon.Model.Keygen

/-!
  "A second reduction is the identity" for the two Babai reductions as modelled (floating-point quotients included): the
  exit tests of the loops depend on the current pair only, so a pair on which a loop stopped with Ok makes it stop at once.
  The induction on the fuel is done once (`exits_at_once`); each loop contributes the analysis of one round.
  Core Lean only.
-/
namespace Falcon

/-- A loop `L` on fuel and a pair, whose exit test reads the current pair only.  If every round that ends in `r` either
    exits there — with `out a b = r`, as it then does whatever fuel is left — or hands over to a shorter run that ends in
    `r`, then `r = out a' b'` for a pair on which the loop exits at once. -/
theorem exits_at_once {α β ρ : Type} {L : Nat → α → β → ρ} {out : α → β → ρ} {r : ρ} (h0 : ∀ a b, L 0 a b ≠ r)
    (round : ∀ fuel a b, L (fuel + 1) a b = r →
      (out a b = r ∧ ∀ fuel', L (fuel' + 1) a b = r) ∨ ∃ a' b', L fuel a' b' = r) :
    ∀ fuel a b, L fuel a b = r → ∃ a' b', out a' b' = r ∧ ∀ fuel', L (fuel' + 1) a' b' = r
  | 0, a, b, h => absurd h (h0 a b)
  | fuel + 1, a, b, h =>
    (round fuel a b h).elim (fun e => ⟨a, b, e⟩) fun ⟨a', b', h'⟩ => exits_at_once h0 round fuel a' b' h'

end Falcon

namespace Falcon.Keygen
open Falcon Falcon.FftFlt

theorem babaiBigLoop_stops {n size : Nat} {f g : List Int} {fStar gStar den : List C} {fuel : Nat} {cF cG : List Int}
    {p : List Int × List Int} {a b : List Int} (h : babaiBigLoop n size f g fStar gStar den fuel cF cG = (some p, a, b)) :
    p = (a, b) ∧ ∀ fuel', babaiBigLoop n size f g fStar gStar den (fuel' + 1) a b = (some (a, b), a, b) := by
  obtain ⟨a', b', e, hs⟩ := exits_at_once (L := babaiBigLoop n size f g fStar gStar den) (out := fun a b => (some (a, b), a, b))
    (fun _ _ => by simp [babaiBigLoop]) (by
      intro fuel cF cG h
      simp only [babaiBigLoop] at h ⊢
      by_cases hsz : max (max (maxSize cF) (maxSize cG)) 53 < size
      · rw [if_pos hsz] at h
        exact .inl ⟨h, fun _ => by rw [if_pos hsz]; exact h⟩
      rw [if_neg hsz] at h
      split at h
      · rename_i hk
        exact .inl ⟨h, fun _ => by simp only [hsz, if_false, hk, if_true]; exact h⟩
      · exact .inr ⟨_, _, h⟩) fuel cF cG h
  simp only [Prod.mk.injEq, Option.some.injEq] at e
  obtain ⟨rfl, rfl, rfl⟩ := e
  exact ⟨rfl, hs⟩

theorem babaiBig_idempotent (f g cF cG : List Int) (h : (babaiBig f g cF cG).1 = true) :
    babaiBig f g (babaiBig f g cF cG).2.1 (babaiBig f g cF cG).2.2 = (true, (babaiBig f g cF cG).2.1, (babaiBig f g cF cG).2.2) := by
  unfold babaiBig at h ⊢
  simp only at h ⊢
  generalize hr : babaiBigLoop f.length _ f g _ _ _ 1001 cF cG = r at h ⊢
  obtain ⟨o, a, b⟩ := r
  cases o with
  | none => simp at h
  | some p =>
    obtain ⟨rfl, hstop⟩ := babaiBigLoop_stops hr
    simp only [hstop 1000]
    rfl

theorem babaiI32Loop_stops {chk : Bool} {d size : Nat} {fNtt gNtt : List Nat} {fStar gStar den : List C} {fuel : Nat}
    {cF cG a b : List Int} (h : babaiI32Loop chk d size fNtt gNtt fStar gStar den fuel cF cG = .ok (true, a, b)) (fuel' : Nat) :
    babaiI32Loop chk d size fNtt gNtt fStar gStar den (fuel' + 1) a b = .ok (true, a, b) := by
  obtain ⟨a', b', e, hs⟩ := exits_at_once (L := babaiI32Loop chk d size fNtt gNtt fStar gStar den)
    (out := fun a b => .ok (true, a, b)) (fun _ _ => by simp [babaiI32Loop]) (by
      intro fuel cF cG h
      simp only [babaiI32Loop] at h ⊢
      by_cases hsz : max (bitsizeI32 (cF ++ cG)) 53 < size
      · rw [if_pos hsz] at h
        exact .inl ⟨h, fun _ => by rw [if_pos hsz]; exact h⟩
      rw [if_neg hsz] at h
      obtain ⟨kc, hkc, h⟩ := Res.bind_eq_ok.mp h
      by_cases hk : (Zp.ntt d kc).all (· == 0) = true
      · rw [if_pos hk] at h
        exact .inl ⟨h, fun _ => by simp only [hsz, if_false, hkc, Res.bind_ok, hk, if_true]; exact h⟩
      -- a round that goes on: every step of it returned, and the rest of the loop ends in the same result
      rw [if_neg hk] at h
      obtain ⟨kfp, _, h⟩ := Res.bind_eq_ok.mp h
      obtain ⟨kgp, _, h⟩ := Res.bind_eq_ok.mp h
      obtain ⟨kf, _, h⟩ := Res.bind_eq_ok.mp h
      obtain ⟨kg, _, h⟩ := Res.bind_eq_ok.mp h
      obtain ⟨cF', _, h⟩ := Res.bind_eq_ok.mp h
      obtain ⟨cG', _, h⟩ := Res.bind_eq_ok.mp h
      exact .inr ⟨_, _, h⟩) fuel cF cG h
  simp only [Res.ok.injEq, Prod.mk.injEq, true_and] at e
  obtain ⟨rfl, rfl⟩ := e
  exact hs fuel'

theorem babaiI32_idempotent (chk : Bool) (f g cF cG a b : List Int) (h : babaiI32 chk f g cF cG = .ok (true, a, b)) :
    babaiI32 chk f g a b = .ok (true, a, b) := by
  unfold babaiI32 at h ⊢
  obtain ⟨fp, hfp, h⟩ := Res.bind_eq_ok.mp h
  obtain ⟨gp, hgp, h⟩ := Res.bind_eq_ok.mp h
  simp only [hfp, hgp, Res.bind_ok]
  exact babaiI32Loop_stops h 1000

end Falcon.Keygen

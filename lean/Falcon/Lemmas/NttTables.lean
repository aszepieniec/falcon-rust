import Falcon.Model.Ntt
import Falcon.Lemmas.TableCheck

/-!
Table obligations for the Z_q twiddle tables: the Boolean check of `TableCheck` evaluated by the kernel on the lists
regenerated from fast_fft.rs (`Falcon.Gen.FeltTables`), and the closed form of the tables.  Core Lean only.
-/
namespace Falcon.Ntt

def Tl : List Nat := Gen.feltPsiRev.map Zq.new
def TIl : List Nat := Gen.feltPsiInvRev.map Zq.new

theorem new_getD (l : List Int) (k : Nat) : Zq.new (l.getD k 0) = (l.map Zq.new).getD k 0 := by
  simp only [List.getD_eq_getElem?_getD, List.getElem?_map]
  cases l[k]? <;> rfl

theorem T_eq (k : Nat) : T k = Tl.getD k 0 := new_getD _ k

theorem TI_eq (k : Nat) : TI k = TIl.getD k 0 := new_getD _ k

theorem tablesOK_true : ModNtt.tablesOK 12289 Tl TIl = true := by decide +kernel

/-! ### "bit-reversed powers of a primitive 2048-th root of unity", verbatim -/

/-- reverse the 10 low bits of i -/
def bitrev10 (i : Nat) : Nat :=
  (i % 2) * 512 + (i / 2 % 2) * 256 + (i / 4 % 2) * 128 + (i / 8 % 2) * 64 + (i / 16 % 2) * 32 +
  (i / 32 % 2) * 16 + (i / 64 % 2) * 8 + (i / 128 % 2) * 4 + (i / 256 % 2) * 2 + (i / 512 % 2)

/-- ψ := table[512] (bit reversal of 1): the generator -/
def psi : Nat := Tl.getD 512 0
def psiInv : Nat := TIl.getD 512 0

def powersOK : Bool :=
  (Tl == (List.range 1024).map fun i => psi ^ bitrev10 i % 12289) &&
  (TIl == (List.range 1024).map fun i => psiInv ^ bitrev10 i % 12289) &&
  (psi ^ 1024 % 12289 == 12288) && (psi * psiInv % 12289 == 1)

theorem powersOK_true : powersOK = true := by decide +kernel

theorem getD_map_range (f : Nat → Nat) {n i : Nat} (hi : i < n) : ((List.range n).map f).getD i 0 = f i := by
  rw [List.getD_eq_getElem?_getD, List.getElem?_map, List.getElem?_range hi]; rfl

theorem powersOK_spec :
    (∀ i, i < 1024 → T i = psi ^ bitrev10 i % 12289 ∧ TI i = psiInv ^ bitrev10 i % 12289) ∧
    psi ^ 1024 % 12289 = 12288 ∧ psi * psiInv % 12289 = 1 := by
  have h := powersOK_true
  simp only [powersOK, Bool.and_eq_true, beq_iff_eq] at h
  obtain ⟨⟨⟨h1, h2⟩, h3⟩, h4⟩ := h
  -- `getD_map_range` is about a variable length: proved at the literal 1024 the step makes Lean evaluate `range 1024`
  exact ⟨fun i hi => ⟨by rw [T_eq, h1, getD_map_range _ hi], by rw [TI_eq, h2, getD_map_range _ hi]⟩, h3, h4⟩

/-- n · n⁻¹ = 1 for every arm of the `match n` in `ifft_inplace`, and the arms are exactly 1, 2, …, 1024 -/
def ninvOK : Bool :=
  (Gen.feltNinv.map (·.1) == [1, 2, 4, 8, 16, 32, 64, 128, 256, 512, 1024]) &&
  Gen.feltNinv.all fun (n, c) => n * Zq.new c % 12289 == 1

theorem ninvOK_true : ninvOK = true := by decide +kernel

end Falcon.Ntt

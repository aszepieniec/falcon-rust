import Falcon.Model.KeygenSkel

/-! what `gen_poly` returns: the chunk sums of the 4096 samples it draws (n of them when n divides 4096), and its input
    stream minus the prefix it read (core Lean only) -/
namespace Falcon.KeygenSkel
open Falcon

theorem sampleMany_spec (chk : Bool) : ∀ (cnt : Nat) (stream : List Nat) (acc vals : List Int) (rest : List Nat),
    sampleMany chk cnt stream acc = .ok (some (vals, rest)) →
    vals.length = acc.length + cnt ∧ ∃ k, rest = stream.drop k
  | 0, stream, acc, vals, rest, h => by
    simp only [sampleMany, Res.ok.injEq, Option.some.injEq, Prod.mk.injEq] at h
    obtain ⟨rfl, rfl⟩ := h
    exact ⟨by simp, 0, rfl⟩
  | cnt + 1, stream, acc, vals, rest, h => by
    rw [sampleMany] at h
    obtain ⟨_ | ⟨z, used⟩, -, h⟩ := Res.bind_eq_ok.mp h
    · nomatch h
    · obtain ⟨hl, k, hk⟩ := sampleMany_spec chk cnt _ _ _ _ h
      exact ⟨by simp only [List.length_cons] at hl; omega, used + k, by rw [hk, List.drop_drop]⟩

theorem chunkSums_length (k : Nat) (hk : 0 < k) : ∀ (m fuel : Nat) (l : List Int), l.length = k * m → m ≤ fuel →
    (chunkSums k fuel l).length = m
  | 0, fuel, l, hl, _ => by
    obtain rfl : l = [] := List.eq_nil_of_length_eq_zero hl
    cases fuel <;> rfl
  | m + 1, fuel + 1, l, hl, hf => by
    -- k·(m + 1) entries with 0 < k: the list is not empty, one chunk goes and k·m entries are left
    rw [Nat.mul_succ] at hl
    have hne : l.isEmpty = false := by
      cases l with
      | nil => exact absurd hl (by simp; omega)
      | cons => rfl
    have hd : (l.drop k).length = k * m := by rw [List.length_drop, hl, Nat.add_sub_cancel]
    rw [chunkSums, hne, if_neg Bool.false_ne_true, List.length_cons,
      chunkSums_length k hk m fuel _ hd (Nat.le_of_succ_le_succ hf)]

/-- the stream comes back minus a prefix: the next polynomial (and the next candidate) continues exactly where this
    one stopped reading -/
theorem genPoly_spec (chk : Bool) (n : Nat) (stream : List Nat) (p : List Int) (rest : List Nat)
    (h : genPoly chk n stream = .ok (some (p, rest))) :
    (∃ vals, vals.length = Gen.genPolyNumCoefficients ∧ p = chunkSums (Gen.genPolyNumCoefficients / n) n vals) ∧
      ∃ k, rest = stream.drop k := by
  obtain ⟨_ | ⟨vals, rest'⟩, hs, h⟩ := Res.bind_eq_ok.mp h
  · nomatch h
  · obtain ⟨hl, hk⟩ := sampleMany_spec chk _ _ _ _ _ hs
    simp only [Res.pure_eq, Res.ok.injEq, Option.some.injEq, Prod.mk.injEq] at h
    obtain ⟨rfl, rfl⟩ := h
    exact ⟨⟨vals, by simpa using hl, rfl⟩, hk⟩

theorem genPoly_length (chk : Bool) (n : Nat) (hdiv : Gen.genPolyNumCoefficients = Gen.genPolyNumCoefficients / n * n)
    (stream : List Nat) (p : List Int) (rest : List Nat) (h : genPoly chk n stream = .ok (some (p, rest))) :
    p.length = n := by
  obtain ⟨⟨vals, hl, rfl⟩, _⟩ := genPoly_spec chk n stream p rest h
  have hk : 0 < Gen.genPolyNumCoefficients / n :=
    Nat.pos_of_ne_zero fun h0 => by rw [h0, Nat.zero_mul] at hdiv; exact absurd hdiv (by decide)
  exact chunkSums_length _ hk n n vals (by rw [hl]; exact hdiv) (Nat.le_refl n)

end Falcon.KeygenSkel

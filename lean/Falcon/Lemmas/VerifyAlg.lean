import Falcon.Lemmas.NttZMod
import Falcon.Lemmas.Keys
import Falcon.Model.Verify
import Falcon.Lemmas.CodecRefine

/-! the model of `verify`: its transform-domain computation equals c − s2 ⋆ h (all n = 2^d ≤ 1024), so `verifyCore` is
    `decompress` followed by the norm test (`verifyCore_eq`); the variants' constants; the public entry `verifyBytes` is
    `verify` on what the two decoders return -/
namespace Falcon.Ntt
open Falcon

theorem verify_core_algebra (d : Nat) (hd : d ≤ 10) (cc s h : List Nat)
    (hlc : cc.length = 2 ^ d) (hls : s.length = 2 ^ d) (hlh : h.length = 2 ^ d) :
    intt d (List.zipWith subq (ntt d cc) (hadamard (ntt d s) (ntt d h))) =
      .ok (List.zipWith subq cc (negacyc (2 ^ d) s h)) := by
  rw [ntt_eq, ntt_eq, ntt_eq, hadamard_eq, negacyc_eq, subL_eq, subL_eq]
  exact intt_of hd (ModNtt.subL_length 12289 (ModNtt.ntt_length 12289 T d cc hlc)
      (ModNtt.hadamard_length 12289 (ModNtt.ntt_length 12289 T d s hls) (ModNtt.ntt_length 12289 T d h hlh)))
    fun _ hv => ModNtt.ntt_sub_mul (tables.mono hd) hv hlc hls hlh

end Falcon.Ntt

namespace Falcon.Verify

open Falcon.Ntt in
/-- `verifyCore` without its transforms: `false` when `decompress` returns `None`, otherwise the norm test of
    Algorithm 16 on the decoded vector (centred c − s2 ⋆ h, then s2) -/
theorem verifyCore_eq (chk : Bool) (d : Nat) (hd : d ≤ 10) (P : Params) (c s h : List Nat)
    (hc : c.length = 2 ^ d) (hh : h.length = 2 ^ d) :
    verifyCore chk P (2 ^ d) c s h = Codec.decompress chk s (2 ^ d) >>= fun r => pure (match r with
      | none => false
      | some s2 =>
        decide ((((List.zipWith subq c (negacyc (2 ^ d) (s2.map Zq.new) h)).map fun (a : Nat) =>
            if a > 6144 then (a : Int) - 12289 else a).map fun i => i * i).sum + (s2.map fun i => i * i).sum
          ≤ (P.sigBound : Int))) := by
  have hn : 1 ≤ 2 ^ d := Nat.pow_pos (by decide)
  obtain ⟨r, hr⟩ := Codec.decompress_total chk s (2 ^ d) hn
  unfold verifyCore
  rw [hr]
  cases r with
  | none => rfl
  | some s2 =>
    have hs : (s2.map Zq.new).length = 2 ^ d := by rw [List.length_map, Codec.decompress_length chk s (2 ^ d) hn s2 hr]
    simp only [Res.bind_ok, log2_pow]
    rw [verify_core_algebra d hd c (s2.map Zq.new) h hc hs hh]
    simp only [Res.bind_ok]
    have hcan : ∀ x ∈ List.zipWith subq c (negacyc (2 ^ d) (s2.map Zq.new) h),
        Zq.balanced chk x = .ok (if x > 6144 then (x : Int) - 12289 else x) :=
      fun x hx => Zq.balanced_eq chk x (ModNtt.subL_lt 12289 _ _ x hx)
    rw [Res.mapM_ok hcan]
    simp only [Res.bind_ok, Res.pure_eq, Gen.verifyCmpLe, if_true]

theorem params_512 : params 512 = .ok ⟨512, 9, 34034726⟩ := rfl
theorem params_1024 : params 1024 = .ok ⟨1024, 10, 70265242⟩ := rfl

/-- the two parameter sets: n = 2^d with d ≤ 10 and the variant's ⌊β²⌋ -/
theorem params_variant {N : Nat} (hN : N = 512 ∨ N = 1024) :
    ∃ d P, params N = .ok P ∧ N = 2 ^ d ∧ d ≤ 10 ∧ P.sigBound = if N = 512 then 34034726 else 70265242 := by
  rcases hN with rfl | rfl
  · exact ⟨9, _, rfl, rfl, by decide, rfl⟩
  · exact ⟨10, _, rfl, rfl, by decide, rfl⟩

/-- neither `from_bytes` panics, so the two binds become a plain match -/
theorem verifyBytes_eq (chk : Bool) (N : Nat) (msg sig pk : List Nat) :
    verifyBytes chk N msg sig pk =
      match KeyCodec.sigFromBytes N sig, KeyCodec.pkFromBytes N pk with
      | .ok (.ok (salt, s)), .ok (.ok h) => verify chk N msg salt s h >>= fun r => pure (some r)
      | _, _ => .ok none := by
  obtain ⟨rs, hrs⟩ := (KeyCodec.sigFromBytes_decodes N sig).total
  obtain ⟨rp, hrp⟩ := (KeyCodec.pkFromBytes_decodes N pk).total
  rw [verifyBytes, hrs, hrp]
  cases rs <;> cases rp <;> rfl

end Falcon.Verify

import Falcon.Lemmas.CodecSpec
import Falcon.Model.Codec

/-!
`encoding.rs::decompress`, byte level.  One iteration of its loop is stated as an equation (`midLoop_succ`, `lastPart_eq`):
the sign bit, seven value bits read through two bytes, and the unary run that `Spec.readUnary` finds on the remaining
bits (`runAt`), with every index in range and no overflow, for any list of numbers.  Hence `decompress` never panics and
returns `n` coefficients; `decBits_drop` is the same iteration on the specification's side, so on byte strings
`decompress` is Algorithm 18.  Core Lean only.
-/
namespace Falcon.Codec
open Falcon Falcon.Spec

theorem bitAt_eq (x : List Nat) (i : Nat) (h : i < 8 * x.length) : bitAt x i = .ok (bitOf x i) := by
  rw [bitAt, idx, bitOf, List.getElem?_eq_getElem (Nat.div_lt_of_lt_mul h), Option.getD_some, testBit_eq_shiftRight]; rfl

theorem bitGet_eq (x : List Nat) (i : Nat) : bitGet x i = if i < 8 * x.length then some (bitOf x i) else none := by
  rw [bitGet, bitOf]
  by_cases h : i < 8 * x.length
  · rw [if_pos h, List.getElem?_eq_getElem (Nat.div_lt_of_lt_mul h), Option.getD_some, testBit_eq_shiftRight]
  · rw [if_neg h, List.getElem?_eq_none (by omega)]

/-! Both unary loops are `readUnary` on the remaining bits, with positions `base +` the count. -/

theorem arith_succ (chk : Bool) (k : Nat) (hk : k < 32767) : arithS chk 16 ((k : Int) + 1) = .ok ((k + 1 : Nat) : Int) :=
  arithS16_ok chk (by omega) (by omega)

theorem unaryLast_eq (chk : Bool) (x : List Nat) (base : Nat) : ∀ (fuel k : Nat),
    base + k < 8 * x.length → k < 95 → 8 * x.length ≤ base + k + fuel →
    unaryLast chk x (8 * x.length) fuel (base + k) (k : Int) =
      .ok ((readUnary 95 ((unpack x).drop (base + k)) k).map fun p => (base + p.1, (p.1 : Int))) := by
  intro fuel
  induction fuel with
  | zero => intro k hi _ hf; omega
  | succ fuel ih =>
    intro k hi hk hf
    rw [unaryLast, bitAt_eq x _ hi, drop_unpack_eq_cons x _ hi]
    cases bitOf x (base + k) with
    | true => rfl
    | false =>
      -- a zero: the code tests for the end of the input, then for the cap; `readUnary` for the cap alone
      simp only [Res.bind_ok, Bool.false_eq_true, if_false, readUnary, arith_succ chk k (Nat.lt_trans hk (by decide)),
        Gen.unaryCapLast, beq_iff_eq, Int.natCast_inj]
      by_cases he : 8 * x.length = base + k + 1
      · rw [if_pos he, List.drop_eq_nil_of_le (by rw [unpack_length]; exact Nat.le_of_eq he)]
        simp [readUnary]
      · rw [if_neg he]
        by_cases hc : k + 1 = 95
        · rw [if_pos hc, if_pos (Nat.le_of_eq hc.symm)]; rfl
        · have hk' : k + 1 < 95 := Nat.lt_of_le_of_ne hk hc
          rw [if_neg hc, if_neg (Nat.not_le.mpr hk')]
          exact ih (k + 1) (Nat.lt_of_le_of_ne hi (Ne.symm he)) hk' (by omega)

theorem unaryMid_eq (chk : Bool) (x : List Nat) (base : Nat) : ∀ (fuel k : Nat),
    base + k + 2 ≤ 8 * x.length → k < 95 → 8 * x.length ≤ base + k + fuel →
    unaryMid chk x (8 * x.length) fuel (base + k) (k : Int) =
      .ok ((readUnary 95 ((unpack x).drop (base + k)) k).bind fun p =>
        if base + p.1 + 1 < 8 * x.length then some (base + p.1 + 1, (p.1 : Int)) else none) := by
  intro fuel
  induction fuel with
  | zero => intro k hi _ hf; omega
  | succ fuel ih =>
    intro k hi hk hf
    have h1 : base + k + 1 < 8 * x.length := hi
    have h0 : base + k < 8 * x.length := Nat.lt_of_succ_lt h1
    rw [unaryMid, bitAt_eq x _ h0, drop_unpack_eq_cons x _ h0]
    cases bitOf x (base + k) with
    | true => rw [readUnary, Option.bind_some, if_pos h1]; rfl
    | false =>
      -- a zero: the code tests for the cap and for a single bit left; `readUnary` for the cap alone
      simp only [Res.bind_ok, Bool.false_eq_true, if_false, readUnary, arith_succ chk k (Nat.lt_trans hk (by decide)),
        Gen.unaryCapMid, Bool.or_eq_true, beq_iff_eq, Int.natCast_inj]
      by_cases hc : k + 1 = 95
      · rw [if_pos (Or.inl hc), if_pos (Nat.le_of_eq hc.symm)]; rfl
      · have hk' : k + 1 < 95 := Nat.lt_of_le_of_ne hk hc
        rw [if_neg (Nat.not_le.mpr hk')]
        by_cases he : base + k + 1 + 1 = 8 * x.length
        · -- one bit left: whatever `readUnary` finds ends at the last bit
          rw [if_pos (Or.inr he)]
          cases hr : readUnary 95 ((unpack x).drop (base + k + 1)) (k + 1) with
          | none => rfl
          | some p =>
            have := (readUnary_inv 95 _ _ _ _ hr).1
            rw [Option.bind_some, if_neg (by omega)]; rfl
        · rw [if_neg (not_or.mpr ⟨hc, he⟩)]
          exact ih (k + 1) (Nat.lt_of_le_of_ne h1 he) hk' (by omega)

/-- the unary run that starts at bit `i`: its number of zeros, when a one follows before the cap and the end -/
def runAt (x : List Nat) (i : Nat) : Option Nat := (readUnary 95 ((unpack x).drop i) 0).map (·.1)

theorem runAt_lt {x : List Nat} {i h : Nat} (hr : runAt x i = some h) : h < 95 := by
  obtain ⟨⟨_, r⟩, hu, rfl⟩ := Option.map_eq_some_iff.mp hr
  exact (readUnary_drop 95 (by decide) _ _ r hu).1

theorem readUnary_unpack (x : List Nat) (i : Nat) :
    readUnary 95 ((unpack x).drop i) 0 = (runAt x i).map fun h => (h, (unpack x).drop (i + h + 1)) := by
  rw [runAt]
  cases hr : readUnary 95 ((unpack x).drop i) 0 with
  | none => rfl
  | some p =>
    obtain ⟨h, r⟩ := p
    obtain ⟨_, rfl⟩ := readUnary_drop 95 (by decide) _ h r hr
    rw [List.drop_drop, ← Nat.add_assoc]; rfl

theorem unaryLast_run (chk : Bool) (x : List Nat) (i : Nat) (hi : i < 8 * x.length) :
    unaryLast chk x (8 * x.length) (8 * x.length) i 0 = .ok ((runAt x i).map fun h => (i + h, (h : Int))) := by
  have := unaryLast_eq chk x i (8 * x.length) 0 hi (by decide) (by omega)
  rwa [Nat.add_zero, readUnary_unpack, Option.map_map] at this

theorem unaryMid_run (chk : Bool) (x : List Nat) (i : Nat) (hi : i + 2 ≤ 8 * x.length) :
    unaryMid chk x (8 * x.length) (8 * x.length) i 0 =
      .ok ((runAt x i).bind fun h => if i + h + 1 < 8 * x.length then some (i + h + 1, (h : Int)) else none) := by
  have := unaryMid_eq chk x i (8 * x.length) 0 hi (by decide) (by omega)
  rwa [Nat.add_zero, readUnary_unpack, Option.bind_map] at this

/-- the seven value bits read through two bytes, as `lowMid` computes them -/
def lowF (b0 b1 m : Nat) : Nat := (((b0 <<< m) ||| (b1 >>> (8 - m))) % 256) >>> 1

theorem lowF_lt (b0 b1 m : Nat) : lowF b0 b1 m < 128 := by
  unfold lowF; rw [Nat.shiftRight_eq_div_pow]; omega

theorem lowF_testBit (b0 b1 m j : Nat) (hm : m < 8) (hj : j < 7) (h1 : b1 < 256) :
    (lowF b0 b1 m).testBit (6 - j) = if m + j < 8 then b0.testBit (7 - (m + j)) else b1.testBit (15 - (m + j)) := by
  have e256 : (256 : Nat) = 2 ^ 8 := rfl
  -- bit 6 − j of the result is bit 7 − j before the last shift
  have e : 1 + (6 - j) = 7 - j := (Nat.add_sub_assoc (Nat.le_of_lt_succ hj) 1).symm
  unfold lowF
  rw [Nat.testBit_shiftRight, e, e256, Nat.testBit_mod_two_pow, Nat.testBit_or, Nat.testBit_shiftLeft, Nat.testBit_shiftRight,
    decide_eq_true (Nat.lt_succ_of_le (Nat.sub_le 7 j) : 7 - j < 8), Bool.true_and]
  by_cases h : m + j < 8
  · rw [if_pos h, testBit_byte h1 (by omega), Bool.or_false, decide_eq_true (by omega : 7 - j ≥ m), Bool.true_and,
      Nat.sub_sub, Nat.add_comm j m]
  · rw [if_neg h, decide_eq_false (by omega : ¬ 7 - j ≥ m), Bool.false_and, Bool.false_or]
    congr 1; omega

theorem lowF_zero (b0 : Nat) {b1 : Nat} (h1 : b1 < 256) : lowF b0 b1 0 = lowF b0 0 0 := by
  unfold lowF; rw [Nat.sub_zero, Nat.shiftRight_eq_zero b1 8 h1, Nat.zero_shiftRight]

theorem lowF_window (x : List Nat) (hx : WF x) (i : Nat) (hi : i + 7 ≤ 8 * x.length) :
    lowF (x[i / 8]?.getD 0) (x[i / 8 + 1]?.getD 0) (i % 8) = bitsToNat (((unpack x).drop i).take 7) := by
  have hl : (((unpack x).drop i).take 7).length = 7 := by
    rw [List.length_take, List.length_drop, unpack_length]; omega
  refine (bitsToNat_eq_of _ _ (by rw [hl]; exact lowF_lt ..) fun j hj => ?_).symm
  rw [hl] at hj ⊢
  rw [List.getElem?_take, if_pos hj, List.getElem?_drop, unpack_get x _ (by omega),
    lowF_testBit _ _ _ j (Nat.mod_lt _ (by decide)) hj (hx.getD_lt _), bitOf_window x i j (by omega)]

theorem succ_div_lt {i n : Nat} (h : i + 8 < 8 * n) : i / 8 + 1 < n := by
  rw [← Nat.add_div_right i (by decide : 0 < 8)]; exact Nat.div_lt_of_lt_mul h

theorem lowMid_spec (x : List Nat) (i : Nat) (hi : i + 8 < 8 * x.length) :
    ∃ v, lowMid x i = .ok v ∧ v < 128 ∧ (WF x → v = bitsToNat (((unpack x).drop i).take 7)) := by
  have hd := succ_div_lt hi
  refine ⟨lowF (x[i / 8]?.getD 0) (x[i / 8 + 1]?.getD 0) (i % 8), ?_, lowF_lt .., fun hx => lowF_window x hx i (by omega)⟩
  simp [lowMid, idx, List.getElem?_eq_getElem hd, List.getElem?_eq_getElem (Nat.lt_of_succ_lt hd), lowF]

theorem lowLast_spec (x : List Nat) (i : Nat) (hi : i + 7 < 8 * x.length) :
    ∃ v, lowLast x i = .ok (some v) ∧ v < 128 ∧ (WF x → v = bitsToNat (((unpack x).drop i).take 7)) := by
  have h0 : i / 8 < x.length := Nat.div_lt_of_lt_mul (Nat.lt_of_le_of_lt (Nat.le_add_right ..) hi)
  by_cases hm : i % 8 = 0
  · -- byte-aligned: only one byte is read; the other would contribute nothing
    refine ⟨lowF (x[i / 8]?.getD 0) 0 0, ?_, lowF_lt .., fun hx => ?_⟩
    · simp [lowLast, idx, List.getElem?_eq_getElem h0, hm, lowF]
    · rw [← lowF_window x hx i (Nat.le_of_lt hi), hm, lowF_zero _ (hx.getD_lt _)]
  · -- otherwise seven more bits reach into the next byte, which the code then reads
    have h8 : i + 8 < 8 * x.length := by omega
    have hd : i / 8 + 1 < x.length := succ_div_lt h8
    obtain ⟨v, hv, h⟩ := lowMid_spec x i h8
    refine ⟨v, ?_, h⟩
    simp only [lowMid, idx, List.getElem?_eq_getElem hd, List.getElem?_eq_getElem h0,
      Res.bind_ok, Res.pure_eq, Res.ok.injEq] at hv
    simp only [lowLast, idx, List.getElem?_eq_getElem hd, List.getElem?_eq_getElem h0,
      Res.bind_ok, if_pos (And.intro hm hd), Res.pure_eq, hv]

theorem padBits_eq (x : List Nat) (index : Nat) : ∀ (cnt off : Nat),
    padBits x index cnt off = (((unpack x).drop (index + off)).take cnt).all (· == false)
  | 0, off => by simp [padBits]
  | cnt + 1, off => by
    rw [padBits, bitGet_eq, padBits_eq x index cnt (off + 1), ← Nat.add_assoc]
    by_cases hi : index + off < 8 * x.length
    · rw [if_pos hi, drop_unpack_eq_cons x _ hi, List.take_succ_cons, List.all_cons]
      cases bitOf x (index + off) <;> rfl
    · rw [if_neg hi, List.drop_eq_nil_of_le (by rw [unpack_length]; omega),
        List.drop_eq_nil_of_le (by rw [unpack_length]; omega)]
      simp

/-- the code's two-stage padding check at bit position `i` -/
def padOk (x : List Nat) (i : Nat) : Bool :=
  padBits x i (8 - i % 8) 0 && !(x.drop (i / 8 + 1 - (if i % 8 = 0 then 1 else 0))).any (· ≠ 0)

theorem padOk_eq (x : List Nat) (hx : WF x) (i : Nat) : padOk x i = ((unpack x).drop i).all (· == false) := by
  rw [padOk, padBits_eq, Nat.add_zero, ← unpack_all_false _ (hx.drop _), ← unpack_drop]
  by_cases hm : i % 8 = 0
  · -- aligned: the byte-wise check starts at the current byte and implies the bit-wise one
    rw [if_pos hm, Nat.add_sub_cancel, (by omega : 8 * (i / 8) = i)]
    exact Bool.and_eq_right_iff_imp.mpr fun h => List.all_eq_true.mpr fun b hb =>
      List.all_eq_true.mp h b (List.mem_of_mem_take hb)
  · -- otherwise it starts at the next byte, where the bit-wise check stops
    rw [if_neg hm, Nat.sub_zero, (by omega : 8 * (i / 8 + 1) = i + (8 - i % 8)), ← List.drop_drop, ← List.all_append,
      List.take_append_drop]

/-- `k < 256` keeps `(k << 7) | low` within `i16` -/
theorem compose_eq (chk neg : Bool) (k low : Nat) (hk : k < 256) (hl : low < 128) :
    compose chk neg (k : Int) low = .ok (coefValue neg k low) := by
  -- the magnitude is at most 255·128 + 127 = 32767, under either sign
  have hb : -32768 ≤ (if neg then -1 else 1) * ((k : Int) * 128 + low) ∧
      (if neg then -1 else 1) * ((k : Int) * 128 + low) < 32768 := by cases neg <;> simp <;> omega
  rw [compose, coefValue, wrapI16_eq (by omega) (by omega), arithS16_ok chk hb.1 hb.2, Int.natCast_add, Int.natCast_mul]
  rfl

/-- the "-0" test on the `i16` run length -/
theorem negZero_cast (neg : Bool) (h low : Nat) : (low == 0 && (h : Int) == 0 && neg) = negZero neg h low := by
  rw [negZero]; congr 2; exact Bool.eq_iff_iff.mpr (by simp)

theorem decCoef_drop (x : List Nat) (index : Nat) (hg : index + 8 ≤ 8 * x.length) :
    decCoef 95 ((unpack x).drop index) = (runAt x (index + 8)).bind fun h =>
      if negZero (bitOf x index) h (bitsToNat (((unpack x).drop (index + 1)).take 7)) then none
      else some (coefValue (bitOf x index) h (bitsToNat (((unpack x).drop (index + 1)).take 7)),
        (unpack x).drop (index + 8 + h + 1)) := by
  have hl : (((unpack x).drop (index + 1)).take 7).length = 7 := by
    rw [List.length_take, List.length_drop, unpack_length]; omega
  conv => lhs; rw [drop_unpack_eq_cons x index (by omega), ← List.take_append_drop 7 ((unpack x).drop (index + 1)), List.drop_drop]
  rw [decCoef_cons 95 _ _ _ hl, readUnary_unpack, Option.bind_map]
  rfl

theorem midLoop_short (chk : Bool) (x : List Nat) (k index : Nat) (abort : Bool) (acc : List Int)
    (hg : index + 9 ≥ 8 * x.length) : midLoop chk x (8 * x.length) (k + 1) index abort acc = .ok none := by
  rw [midLoop, Gen.guardMid, if_pos hg]; rfl

theorem midLoop_succ (chk : Bool) (x : List Nat) (k index : Nat) (abort : Bool) (acc : List Int) (low : Nat)
    (hg : ¬ index + 9 ≥ 8 * x.length) (hlow : lowMid x (index + 1) = .ok low) (hl : low < 128) :
    midLoop chk x (8 * x.length) (k + 1) index abort acc =
      match runAt x (index + 8) with
      | none => .ok none
      | some h =>
        if index + 8 + h + 1 < 8 * x.length then
          midLoop chk x (8 * x.length) k (index + 8 + h + 1) (abort || negZero (bitOf x index) h low)
            (coefValue (bitOf x index) h low :: acc)
        else .ok none := by
  rw [midLoop]
  simp only [Gen.guardMid, if_neg hg, bitAt_eq x index (by omega), Res.bind_ok, hlow,
    (by omega : index + 1 + 7 = index + 8), unaryMid_run chk x (index + 8) (by omega)]
  cases hr : runAt x (index + 8) with
  | none => rfl
  | some h =>
    by_cases hlt : index + 8 + h + 1 < 8 * x.length
    · simp only [Option.bind_some, if_pos hlt, compose_eq chk _ h low (Nat.lt_trans (runAt_lt hr) (by decide)) hl, Res.bind_ok, negZero_cast]
    · simp only [Option.bind_some, if_neg hlt]; rfl

theorem ite_pad {α : Type} (a b : Bool) (v : α) :
    (if (!a) = true then (pure none : Res (Option α)) else if b = true then pure none else pure (some v)) =
      .ok (if (a && !b) = true then some v else none) := by
  cases a <;> cases b <;> rfl

theorem lastPart_short (chk : Bool) (x : List Nat) (index : Nat) (abort : Bool) (acc : List Int)
    (hg : index + 8 ≥ 8 * x.length) : lastPart chk x (8 * x.length) index abort acc = .ok none := by
  rw [lastPart, Gen.guardLast, if_pos hg]; rfl

theorem lastPart_eq (chk : Bool) (x : List Nat) (index : Nat) (abort : Bool) (acc : List Int) (low : Nat)
    (hg : ¬ index + 8 ≥ 8 * x.length) (hlow : lowLast x (index + 1) = .ok (some low)) (hl : low < 128) :
    lastPart chk x (8 * x.length) index abort acc = .ok
      (match runAt x (index + 8) with
      | none => none
      | some h =>
        if abort || negZero (bitOf x index) h low then none
        else if padOk x (index + 8 + h + 1) then some (coefValue (bitOf x index) h low :: acc).reverse else none) := by
  have e1 : (8 * x.length == index) = false := beq_false_of_ne (by omega)
  have e2 : (8 * x.length == index + 8) = false := beq_false_of_ne (by omega)
  rw [lastPart]
  simp only [Gen.guardLast, if_neg hg, e1, bitAt_eq x index (by omega), Res.bind_ok, hlow,
    (by omega : index + 1 + 7 = index + 8), e2, unaryLast_run chk x (index + 8) (by omega), Bool.false_eq_true, if_false]
  cases hr : runAt x (index + 8) with
  | none => rfl
  | some h =>
    simp only [Option.map_some, negZero_cast, compose_eq chk _ h low (Nat.lt_trans (runAt_lt hr) (by decide)) hl, Res.bind_ok, padOk]
    cases abort || negZero (bitOf x index) h low
    · simp only [Bool.false_eq_true, if_false]; exact ite_pad ..
    · rfl

theorem midLoop_ok (chk : Bool) (x : List Nat) : ∀ (k index : Nat) (abort : Bool) (acc : List Int),
    ∃ r, midLoop chk x (8 * x.length) k index abort acc = .ok r ∧
      ∀ i ab acc', r = some (i, ab, acc') → acc'.length = acc.length + k
  | 0, index, abort, acc => ⟨_, rfl, by simp⟩
  | k + 1, index, abort, acc => by
    by_cases hg : index + 9 ≥ 8 * x.length
    · exact ⟨none, midLoop_short chk x k index abort acc hg, nofun⟩
    · obtain ⟨low, hlow, hl, _⟩ := lowMid_spec x (index + 1) (Nat.lt_of_not_le hg)
      rw [midLoop_succ chk x k index abort acc low hg hlow hl]
      split
      · exact ⟨none, rfl, nofun⟩
      · split
        · obtain ⟨r, hr, hlen⟩ := midLoop_ok chk x k _ _ _
          exact ⟨r, hr, fun i ab acc' e => (hlen i ab acc' e).trans (Nat.add_right_comm _ 1 k)⟩
        · exact ⟨none, rfl, nofun⟩

theorem lastPart_ok (chk : Bool) (x : List Nat) (index : Nat) (abort : Bool) (acc : List Int) :
    ∃ r, lastPart chk x (8 * x.length) index abort acc = .ok r ∧ ∀ v, r = some v → v.length = acc.length + 1 := by
  by_cases hg : index + 8 ≥ 8 * x.length
  · exact ⟨none, lastPart_short chk x index abort acc hg, nofun⟩
  · obtain ⟨low, hlow, hl, _⟩ := lowLast_spec x (index + 1) (by omega)
    refine ⟨_, lastPart_eq chk x index abort acc low hg hlow hl, fun v hv => ?_⟩
    -- of the four arms (no run; "-0" or a raised flag; padding clean; padding dirty) only the third returns a vector
    split at hv
    · cases hv
    · split at hv
      · cases hv
      · split at hv
        · rw [← Option.some.inj hv, List.length_reverse, List.length_cons]
        · cases hv

theorem decompress_ok (chk : Bool) (x : List Nat) (n : Nat) (hn : 1 ≤ n) :
    ∃ r, decompress chk x n = .ok r ∧ ∀ v, r = some v → v.length = n := by
  obtain ⟨r, hr, hlen⟩ := midLoop_ok chk x (n - 1) 0 false []
  rw [decompress, if_neg (by omega), Res.bind_ok, hr, Res.bind_ok]
  match r, hlen with
  | none, _ => exact ⟨none, rfl, nofun⟩
  | some (index, abort, acc), hlen =>
    obtain ⟨r, hr, hl⟩ := lastPart_ok chk x index abort acc
    exact ⟨r, hr, fun v hv => by rw [hl v hv, hlen _ _ _ rfl, List.length_nil]; omega⟩

theorem decompress_total (chk : Bool) (x : List Nat) (n : Nat) (hn : 1 ≤ n) :
    ∃ r, decompress chk x n = .ok r :=
  let ⟨r, hr, _⟩ := decompress_ok chk x n hn
  ⟨r, hr⟩

theorem decompress_length (chk : Bool) (x : List Nat) (n : Nat) (hn : 1 ≤ n) (v : List Int)
    (h : decompress chk x n = .ok (some v)) : v.length = n := by
  obtain ⟨r, hr, hlen⟩ := decompress_ok chk x n hn
  exact hlen v (Res.ok.inj (hr.symm.trans h))

/-- the rest of `decompress` after the `for` loop has been entered with `k` iterations to go -/
def decompressFrom (chk : Bool) (x : List Nat) (k index : Nat) (abort : Bool) (acc : List Int) : Res (Option (List Int)) := do
  match ← midLoop chk x (8 * x.length) k index abort acc with
  | none => pure none
  | some (i, ab, ac) => lastPart chk x (8 * x.length) i ab ac

/-- with at most `d` bits left, fewer than `n` coefficients need -/
theorem decBits_drop_short (x : List Nat) (n i d : Nat) (h : 8 * x.length ≤ i + d) (hd : d < 9 * n) :
    decBits 95 n ((unpack x).drop i) = none :=
  decBits_short 95 n _ (by rw [List.length_drop, unpack_length]; omega)

/-- Algorithm 18 at bit position `index`, in the shape of one iteration of the code: the coefficients so far in `acc`
    (reversed), the "-0" flag deferred -/
theorem decBits_drop (x : List Nat) (k index : Nat) (abort : Bool) (acc : List Int) (hg : index + 8 ≤ 8 * x.length) :
    (if abort then none else (decBits 95 (k + 1) ((unpack x).drop index)).map (acc.reverse ++ ·)) =
      match runAt x (index + 8) with
      | none => none
      | some h =>
        if abort || negZero (bitOf x index) h (bitsToNat (((unpack x).drop (index + 1)).take 7)) then none
        else (decBits 95 k ((unpack x).drop (index + 8 + h + 1))).map
          ((coefValue (bitOf x index) h (bitsToNat (((unpack x).drop (index + 1)).take 7)) :: acc).reverse ++ ·) := by
  rw [decBits_succ, decCoef_drop x index hg]
  cases runAt x (index + 8) with
  | none => cases abort <;> rfl
  | some h =>
    simp only [Option.bind_some]
    generalize negZero (bitOf x index) h _ = nz
    -- a raised flag or a "-0" makes both sides `none`; in the case that `simp` leaves, both sides put the coefficient
    -- between `acc.reverse` and what follows
    cases abort <;> cases nz <;> simp
    rfl

theorem decompressFrom_eq (chk : Bool) (x : List Nat) (hx : WF x) : ∀ (k index : Nat) (abort : Bool) (acc : List Int),
    decompressFrom chk x k index abort acc =
      .ok (if abort then none else (decBits 95 (k + 1) ((unpack x).drop index)).map (acc.reverse ++ ·))
  | 0, index, abort, acc => by
    rw [show decompressFrom chk x 0 index abort acc = lastPart chk x (8 * x.length) index abort acc from rfl]
    by_cases hg : index + 8 ≥ 8 * x.length
    · rw [lastPart_short chk x index abort acc hg, decBits_drop_short x 1 index 8 hg (by decide)]
      cases abort <;> rfl
    · have h8 : index + 8 < 8 * x.length := Nat.lt_of_not_le hg
      obtain ⟨low, hlow, hl, hw⟩ := lowLast_spec x (index + 1) h8
      rw [lastPart_eq chk x index abort acc low hg hlow hl, decBits_drop x 0 index abort acc (Nat.le_of_lt h8), ← hw hx]
      cases runAt x (index + 8) with
      | none => rfl
      | some h =>
        -- after the last coefficient `decBits 95 0` accepts exactly an all-zero rest, which is what the two-stage
        -- padding check tests (`padOk_eq`), and returns `[]`
        simp only [padOk_eq x hx, decBits, apply_ite (Option.map _), Option.map_some, Option.map_none, List.append_nil]
  | k + 1, index, abort, acc => by
    rw [decompressFrom]
    by_cases hg : index + 9 ≥ 8 * x.length
    · rw [midLoop_short chk x k index abort acc hg, decBits_drop_short x (k + 2) index 9 hg (by omega)]
      cases abort <;> rfl
    · have h9 : index + 9 < 8 * x.length := Nat.lt_of_not_le hg
      obtain ⟨low, hlow, hl, hw⟩ := lowMid_spec x (index + 1) h9
      rw [midLoop_succ chk x k index abort acc low hg hlow hl,
        decBits_drop x (k + 1) index abort acc (Nat.le_of_lt (Nat.lt_of_succ_lt h9)), ← hw hx]
      cases runAt x (index + 8) with
      | none => rfl
      | some h =>
        by_cases hlt : index + 8 + h + 1 < 8 * x.length
        · simp only [if_pos hlt]
          exact decompressFrom_eq chk x hx k _ _ _
        · -- the run ends at the last bit: nothing is left for the coefficients that must follow
          simp only [if_neg hlt, decBits_drop_short x (k + 1) (index + 8 + h + 1) 0 (Nat.le_of_not_lt hlt)
            (Nat.mul_pos (by decide) (Nat.succ_pos k)), Option.map_none, ite_self]
          rfl

/-- **refinement**: the byte-level model of `decompress` computes exactly Algorithm 18 (with the cap) on the
    bits of the input, for every well-formed byte string and every n ≥ 1, in both build modes -/
theorem decompress_eq_spec (chk : Bool) (x : List Nat) (hx : WF x) (n : Nat) (hn : 1 ≤ n) :
    decompress chk x n = .ok (decompressRef 95 x n) := by
  have h : decompress chk x n = decompressFrom chk x (n - 1) 0 false [] := by
    rw [decompress, if_neg (by omega), Res.bind_ok]; rfl
  rw [h, decompressFrom_eq chk x hx, (by omega : n - 1 + 1 = n), decompressRef, if_neg (by omega : ¬ n = 0), List.drop_zero]
  cases decBits 95 n (unpack x) <;> rfl
end Falcon.Codec

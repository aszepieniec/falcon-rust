import Falcon.Lemmas.Bits
import Falcon.Model.KeyCodec

/-!
The bit strings of the key formats (Model/KeyCodec) are those of the signature codec (Spec/Codec, `Lemmas/Bits`):
`bitsToNat` is the same function (`bitsToNat_eq`), `bitsOfBytes` is `Spec.unpack` by definition (the `bitsOfBytes_*` below are
the `unpack_*` of Bits; the equation itself is `RefEq.unpack_eq` in Lemmas/RefSigEq), a byte is `msb 8`, and `intBits w v` is
`msb w` of `v mod 2^w` also for negative `v`.  So `intBits w v` is the one `w`-bit string whose value is `v mod 2^w` (`intBits_eq_iff`).
Then the chunking of a bit string into fields of `w` bits, generically in `w`.  Core Lean only.
-/
namespace Falcon.KeyCodec
open Falcon
open Falcon.Spec (msb)

theorem bitsToNat_eq : ∀ l : List Bool, bitsToNat l = Spec.bitsToNat l
  | [] => rfl
  | b :: l => by rw [bitsToNat, Spec.bitsToNat, bitsToNat_eq l]

theorem bitsToNat_lt (c : List Bool) : bitsToNat c < 2 ^ c.length := bitsToNat_eq c ▸ Spec.bitsToNat_lt c

theorem bitsToNat_append (a b : List Bool) : bitsToNat (a ++ b) = bitsToNat a * 2 ^ b.length + bitsToNat b := by
  simp only [bitsToNat_eq, Spec.bitsToNat_append]

theorem bitsToNat_eq_zero_iff (c : List Bool) : bitsToNat c = 0 ↔ c.all (· == false) = true := by
  rw [bitsToNat_eq, ← Spec.bitsToNat_eq_zero, beq_iff_eq]

theorem intBits_length (w : Nat) (v : Int) : (intBits w v).length = w := by simp [intBits]

theorem intBits_succ (w : Nat) (v : Int) : intBits (w + 1) v = (v / (2 : Int) ^ w % 2 == 1) :: intBits w v := by
  simp [intBits, List.range_succ]

theorem intBits_eq_msb {v : Int} {n : Nat} :
    ∀ {w : Nat}, (∀ i < w, (v / (2 : Int) ^ i % 2 == 1) = n.testBit i) → intBits w v = msb w n
  | 0, _ => rfl
  | w + 1, h => by
    rw [intBits_succ, msb, h w (Nat.lt_succ_self w), intBits_eq_msb fun i hi => h i (Nat.lt_succ_of_lt hi)]

theorem int_bit_emod (v : Int) {w i : Nat} (hi : i < w) :
    (v / (2 : Int) ^ i % 2 == 1) = (v % (2 : Int) ^ w).toNat.testBit i := by
  have hr : ((v % (2 : Int) ^ w).toNat : Int) = v % (2 : Int) ^ w :=
    Int.toNat_of_nonneg (Int.emod_nonneg v (Int.pow_ne_zero (by decide)))
  have hp : (2 : Int) ^ w = (2 : Int) ^ i * (2 * (2 : Int) ^ (w - i - 1)) := by
    rw [← Int.pow_succ', ← Int.pow_add]; congr 1; omega
  -- v = v mod 2^w + 2^i · 2 · m, so the quotients by 2^i differ by an even number
  have hv : v / (2 : Int) ^ i =
      v % (2 : Int) ^ w / (2 : Int) ^ i + 2 * ((2 : Int) ^ (w - i - 1) * (v / (2 : Int) ^ w)) := by
    conv => lhs; rw [← Int.emod_add_mul_ediv v ((2 : Int) ^ w)]
    rw [hp, Int.mul_assoc, Int.add_mul_ediv_left _ _ (Int.pow_ne_zero (by decide)), Int.mul_assoc]
  -- … which the reduction modulo 2 drops; what is left is one parity, computed in ℤ and in ℕ
  rw [Spec.testBit_eq, hv, ← hr, Int.add_mul_emod_self_left]
  generalize (v % (2 : Int) ^ w).toNat = u
  rw [show (u : Int) / (2 : Int) ^ i % 2 = ((u / 2 ^ i % 2 : Nat) : Int) by norm_cast]
  exact Bool.eq_iff_iff.mpr (by rw [beq_iff_eq, beq_iff_eq]; exact Int.natCast_inj (n := 1))

theorem intBits_eq (w : Nat) (v : Int) : intBits w v = msb w (v % (2 : Int) ^ w).toNat :=
  intBits_eq_msb fun _ hi => int_bit_emod v hi

theorem bitsToNat_intBits (w : Nat) (v : Int) : (bitsToNat (intBits w v) : Int) = v % (2 : Int) ^ w := by
  have h0 : 0 ≤ v % (2 : Int) ^ w := Int.emod_nonneg v (Int.pow_ne_zero (by decide))
  have hlt : v % (2 : Int) ^ w < ((2 ^ w : Nat) : Int) := by
    rw [Int.natCast_pow]; exact Int.emod_lt_of_pos v (Int.pow_pos (by decide))
  rw [intBits_eq, bitsToNat_eq, Spec.bitsToNat_msb, Nat.mod_eq_of_lt (by omega), Int.toNat_of_nonneg h0]

theorem intBits_eq_iff (c : List Bool) (v : Int) :
    intBits c.length v = c ↔ (bitsToNat c : Int) = v % (2 : Int) ^ c.length := by
  constructor
  · intro h; rw [← bitsToNat_intBits, h]
  · intro h
    rw [intBits_eq, ← h, Int.toNat_natCast, bitsToNat_eq, Spec.msb_bitsToNat]

theorem byteBits_eq (b : Nat) : byteBits b = msb 8 b := by simp [byteBits, msb, Spec.testBit_eq]

theorem bitsToNat_byteBits (b : Nat) (hb : b < 256) : bitsToNat (byteBits b) = b := by
  rw [bitsToNat_eq, byteBits_eq, Spec.bitsToNat_msb, Nat.mod_eq_of_lt hb]

theorem bitsOfBytes_cons (b : Nat) (x : List Nat) : bitsOfBytes (b :: x) = byteBits b ++ bitsOfBytes x := by
  simp [bitsOfBytes]

theorem bitsOfBytes_append (x y : List Nat) : bitsOfBytes (x ++ y) = bitsOfBytes x ++ bitsOfBytes y :=
  Spec.unpack_append x y

theorem bitsOfBytes_length (x : List Nat) : (bitsOfBytes x).length = 8 * x.length := Spec.unpack_length x

theorem bitsOfBytes_take (x : List Nat) (k : Nat) : (bitsOfBytes x).take (8 * k) = bitsOfBytes (x.take k) :=
  Spec.unpack_take x k

theorem bitsOfBytes_drop (x : List Nat) (k : Nat) : (bitsOfBytes x).drop (8 * k) = bitsOfBytes (x.drop k) :=
  Spec.unpack_drop x k

theorem bytesOfBits_append (c rest : List Bool) (hc : c.length = 8) :
    bytesOfBits (c ++ rest) = bitsToNat c :: bytesOfBits rest := by
  match c, hc with
  | [_, _, _, _, _, _, _, _], _ => rfl

theorem bytesOfBits_cons (b : Nat) (rest : List Bool) (hb : b < 256) :
    bytesOfBits (byteBits b ++ rest) = b :: bytesOfBits rest := by
  rw [bytesOfBits_append _ _ rfl, bitsToNat_byteBits b hb]

/-- only on whole bytes: a ragged tail `bytesOfBits` pads, `Spec.pack` drops it -/
theorem bytesOfBits_eq_pack : ∀ (k : Nat) (bs : List Bool), bs.length = 8 * k → bytesOfBits bs = Spec.pack bs
  | 0, bs, h => by
    have : bs = [] := List.length_eq_zero_iff.mp (by omega)
    subst this; rfl
  | k + 1, bs, h => by
    have hl : (bs.take 8).length = 8 := List.length_take_of_le (by omega)
    rw [← List.take_append_drop 8 bs, bytesOfBits_append _ _ hl, Spec.pack_append _ _ hl, bitsToNat_eq,
      bytesOfBits_eq_pack k (bs.drop 8) (by rw [List.length_drop]; omega)]

theorem bytesOfBits_bitsOfBytes (x : List Nat) (h : ∀ b ∈ x, b < 256) : bytesOfBits (bitsOfBytes x) = x := by
  rw [bytesOfBits_eq_pack x.length _ (bitsOfBytes_length x)]; exact Spec.pack_unpack x h

theorem bitsOfBytes_bytesOfBits (k : Nat) (bs : List Bool) (h : bs.length = 8 * k) : bitsOfBytes (bytesOfBits bs) = bs := by
  rw [bytesOfBits_eq_pack k bs h]; exact (Spec.pack_spec k bs h).2.2

theorem bytesOfBits_length (k : Nat) (bs : List Bool) (h : bs.length = 8 * k) : (bytesOfBits bs).length = k := by
  rw [bytesOfBits_eq_pack k bs h]; exact (Spec.pack_spec k bs h).1

theorem bytesOfBits_lt (bs : List Bool) : ∀ x ∈ bytesOfBits bs, x < 256 := by
  induction h : bs.length using Nat.strongRecOn generalizing bs with
  | _ n ih =>
    by_cases h8 : 8 ≤ bs.length
    · have ht : (bs.take 8).length = 8 := List.length_take_of_le (by omega)
      rw [← List.take_append_drop 8 bs, bytesOfBits_append _ _ ht]
      intro x hx
      rcases List.mem_cons.mp hx with rfl | hx
      · have := bitsToNat_lt (bs.take 8); rw [ht] at this; exact this
      · exact ih _ (by rw [List.length_drop]; omega) _ rfl x hx
    · by_cases h0 : bs = []
      · subst h0; simp [bytesOfBits]
      · have hlt := bitsToNat_lt (bs ++ List.replicate (8 - bs.length) false)
        rw [List.length_append, List.length_replicate, show bs.length + (8 - bs.length) = 8 by omega] at hlt
        -- one to seven bits: the last arm of `bytesOfBits`, whose equation asks that the other two do not match
        rw [bytesOfBits.eq_3 bs (by intros; subst_vars; simp at h8) h0]
        simpa using hlt

theorem chunks_cons (w fuel : Nat) (c rest : List Bool) (hc : c.length = w) (hw : 0 < w) :
    chunks w (fuel + 1) (c ++ rest) = c :: chunks w fuel rest := by
  have hne : (c ++ rest).isEmpty = false := by
    cases c with
    | nil => simp at hc; omega
    | cons => rfl
  simp only [chunks, hne, Bool.false_eq_true, if_false]
  rw [List.take_left' hc, List.drop_left' hc]

theorem chunks_nil (w fuel : Nat) : chunks w fuel [] = [] := by cases fuel <;> simp [chunks]

theorem length_flatten_map {α : Type} {w : Nat} (g : α → List Bool) (hg : ∀ a, (g a).length = w) :
    ∀ l : List α, ((l.map g).flatten).length = l.length * w
  | [] => (Nat.zero_mul w).symm
  | a :: l => by
    rw [List.map_cons, List.flatten_cons, List.length_append, hg a, length_flatten_map g hg l, List.length_cons, Nat.succ_mul,
      Nat.add_comm]

/-- read `n` consecutive `w`-bit fields from the front of a bit string -/
def readFields {α : Type} (f : List Bool → Option α) (w : Nat) : Nat → List Bool → Option (List α)
  | 0, _ => some []
  | n + 1, S => (f (S.take w)).bind fun v => (readFields f w n (S.drop w)).map (v :: ·)

theorem mapM_chunks {α : Type} (f : List Bool → Option α) (w : Nat) (hw : 0 < w) : ∀ (n : Nat) (S : List Bool) (fuel : Nat),
    S.length = n * w → n ≤ fuel → (chunks w fuel S).mapM f = readFields f w n S
  | 0, S, fuel, hS, _ => by
    have : S = [] := List.eq_nil_of_length_eq_zero (by simpa using hS)
    subst this; rw [chunks_nil]; rfl
  | n + 1, S, 0, _, hf => by simp at hf
  | n + 1, S, fuel + 1, hS, hf => by
    rw [Nat.succ_mul] at hS
    have ht : (S.take w).length = w := List.length_take_of_le (by omega)
    conv => lhs; rw [← List.take_append_drop w S, chunks_cons w fuel _ _ ht hw]
    rw [List.mapM_cons, mapM_chunks f w hw n (S.drop w) fuel (by rw [List.length_drop]; omega) (by omega), readFields]
    cases f (S.take w) <;> cases readFields f w n (S.drop w) <;> rfl

/-- a partial inverse `g` (on `P`) of the field reader `f` lifts to strings of `n` fields -/
theorem readFields_eq_some_iff {α : Type} (f : List Bool → Option α) (g : α → List Bool) (P : α → Prop) (w : Nat)
    (hg : ∀ r, (g r).length = w) (hf : ∀ c r, c.length = w → (f c = some r ↔ P r ∧ g r = c)) :
    ∀ (n : Nat) (S : List Bool) (vs : List α), S.length = n * w →
      (readFields f w n S = some vs ↔ (∀ v ∈ vs, P v) ∧ vs.length = n ∧ (vs.map g).flatten = S)
  | 0, S, vs, hS => by
    obtain rfl : S = [] := List.eq_nil_of_length_eq_zero (by simpa using hS)
    cases vs <;> simp [readFields]
  | n + 1, S, vs, hS => by
    rw [Nat.succ_mul] at hS
    have ht : (S.take w).length = w := List.length_take_of_le (by rw [hS]; exact Nat.le_add_left _ _)
    have ih := fun vs' => readFields_eq_some_iff f g P w hg hf n (S.drop w) vs'
      (by rw [List.length_drop, hS, Nat.add_sub_cancel])
    rw [readFields]
    constructor
    · intro h
      obtain ⟨v, hv, h⟩ := Option.bind_eq_some_iff.mp h
      obtain ⟨vs', hvs', rfl⟩ := Option.map_eq_some_iff.mp h
      obtain ⟨hP, hgv⟩ := (hf _ _ ht).mp hv
      obtain ⟨h1, h2, h3⟩ := (ih vs').mp hvs'
      refine ⟨fun x hx => ?_, by rw [List.length_cons, h2], by rw [List.map_cons, List.flatten_cons, hgv, h3, List.take_append_drop]⟩
      rcases List.mem_cons.mp hx with rfl | hx
      · exact hP
      · exact h1 x hx
    · rintro ⟨h1, h2, h3⟩
      cases vs with
      | nil => simp at h2
      | cons v vs' =>
        rw [List.map_cons, List.flatten_cons] at h3
        have e1 : S.take w = g v := by rw [← h3, List.take_left' (hg v)]
        have e2 : S.drop w = (vs'.map g).flatten := by rw [← h3, List.drop_left' (hg v)]
        rw [e1, (hf _ _ (hg v)).mpr ⟨h1 v (by simp), rfl⟩, Option.bind_some,
          (ih vs').mpr ⟨fun x hx => h1 x (by simp [hx]), by simpa using h2, e2.symm⟩]
        rfl

end Falcon.KeyCodec

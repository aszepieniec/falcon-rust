import Falcon.Spec.RefFormat
import Falcon.Lemmas.RefAcc
import Falcon.Lemmas.Keys

/-!
The reference's key decoders (Spec/RefFormat) against the model of falcon.rs (Model/KeyCodec).  Each accumulator loop
reads, by one induction, the fields off the stream its state delivers (`Reads`, Lemmas/RefAcc; `readFields`).  Hence the
reference accepts exactly `SkEncodes` / `PkEncodes` (`skDecode_eq_some_iff`, `pkDecode_eq_some_iff`), the predicates
that `from_bytes` accepts (Lemmas/Keys), and the two imports are the same function (`skDecode_eq`, `pkDecode_eq`).  Core Lean only.
-/
namespace Falcon.RefEq
open Falcon Falcon.KeyCodec

/-- both loops collect the fields in reverse: one more field read is one more field consed onto `out` -/
theorem map_cons_reverse {α : Type} (v : α) (out : List α) (r : Option (List α)) :
    (r.map (v :: ·)).map (out.reverse ++ ·) = r.map ((v :: out).reverse ++ ·) := by
  cases r with
  | none => rfl
  | some l => rw [Option.map_some, Option.map_some, Option.map_some, List.reverse_cons, List.append_assoc]; rfl

theorem inner_zero (bits n al acc : Nat) (out : List Int) :
    RefFormat.trimI8Decode.inner bits n 0 al acc out = some (al, out) := by
  rw [RefFormat.trimI8Decode.inner]

theorem inner_succ (bits n fuel al acc : Nat) (out : List Int) :
    RefFormat.trimI8Decode.inner bits n (fuel + 1) al acc out =
    if al ≥ bits ∧ out.length < n then
      (match signedOfNat bits ((acc / 2 ^ (al - bits)) % 2 ^ bits) with
       | none => none
       | some v => RefFormat.trimI8Decode.inner bits n fuel (al - bits) acc (v :: out))
    else some (al, out) := by
  rw [RefFormat.trimI8Decode.inner, signedOfNat]
  by_cases h : al ≥ bits ∧ out.length < n
  · simp only [h, and_self, if_true]
    split <;> rfl
  · simp only [h, if_false]

/-- the inner `while` of `trim_i8_decode` takes fields off the stream as long as a whole one is pending.  `m` = fields still
    due; `S`, what the reader still delivers, is exactly their bits (the buffer was cut to `in_len`); `fuel` bounds the
    iterations, one field each.  Stated as: reading `m` fields off `S` gives what reading the `m'` left off `S'` gives -/
theorem trim_inner_spec (bits n : Nat) (hb1 : 1 ≤ bits) (acc : Nat) (bytes : List Nat) :
    ∀ (fuel al : Nat) (S : List Bool) (out : List Int) (m : Nat), Reads acc al bytes S → out.length + m = n →
      S.length = m * bits → al < fuel * bits →
      match RefFormat.trimI8Decode.inner bits n fuel al acc out with
      | none => readFields signedField bits m S = none
      | some (al', out') => ∃ S' m', Reads acc al' bytes S' ∧ al' < bits ∧ out'.length + m' = n ∧ S'.length = m' * bits ∧
          (readFields signedField bits m S).map (out.reverse ++ ·) = (readFields signedField bits m' S').map (out'.reverse ++ ·)
  | 0, al, S, out, m, _, _, _, hf => by simp at hf
  | fuel + 1, al, S, out, m, hR, hout, hS, hf => by
    rw [inner_succ]
    have hl := hR.length
    by_cases hc : al ≥ bits ∧ out.length < n
    · rw [if_pos hc]
      have hm : m ≠ 0 := by rintro rfl; omega
      obtain ⟨m, rfl⟩ := Nat.exists_eq_succ_of_ne_zero hm
      rw [Nat.succ_mul] at hS hf
      have ht : (S.take bits).length = bits := List.length_take_of_le (by omega)
      -- the side conditions of the recursive call, stated before the equation of the popped field slows `omega` down
      have hout' : out.length + 1 + m = n := by omega
      have hS' : (S.drop bits).length = m * bits := by rw [List.length_drop, hS, Nat.add_sub_cancel]
      have hf' : al - bits < fuel * bits := Nat.sub_lt_right_of_lt_add hc.1 hf
      obtain ⟨hw, hR'⟩ := hR.pop bits hc.1
      have hfield := signedOfNat_bitsToNat (S.take bits) (by rw [ht]; exact hb1)
      rw [ht] at hfield
      rw [hw, hfield, readFields]
      cases signedField (S.take bits) with
      | none => rfl
      | some v =>
        have ih := trim_inner_spec bits n hb1 acc bytes fuel (al - bits) (S.drop bits) (v :: out) m hR' hout' hS' hf'
        simp only [Option.bind_some]
        -- the goal is a `match` on the same result, and `split` resolves it along with the one in `ih`
        split at ih
        · rw [ih]; rfl
        · obtain ⟨S', m', hR'', hal', hout', hS', hread⟩ := ih
          exact ⟨S', m', hR'', hal', hout', hS', (map_cons_reverse v out _).trans hread⟩
    · rw [if_neg hc]
      refine ⟨S, m, hR, ?_, hout, hS, rfl⟩
      rcases Nat.lt_or_ge al bits with h | h
      · exact h
      · -- a whole field is pending, so the loop stopped because all n are read: nothing is left to deliver
        have hn : ¬ out.length < n := fun h' => hc ⟨h, h'⟩
        obtain rfl : m = 0 := by omega
        omega

theorem trim_go_spec (bits n : Nat) (hb1 : 1 ≤ bits) (hb8 : bits ≤ 8) : ∀ (bs : List Nat) (acc al : Nat) (S : List Bool)
    (out : List Int) (m : Nat), (∀ x ∈ bs, x < 256) → Reads acc al bs S → al < bits → out.length + m = n → S.length = m * bits →
    RefFormat.trimI8Decode.go bits n bs acc al out = (readFields signedField bits m S).map (out.reverse ++ ·)
  | [], acc, al, S, out, m, _, hR, hal, hout, hS => by
    -- no byte left: less than a field is pending, so no field is due and no bit is pending
    have hl : S.length = al := hR.length
    obtain rfl : m = 0 := by
      cases m with
      | zero => rfl
      | succ m => rw [Nat.succ_mul] at hS; omega
    obtain rfl : al = 0 := by omega
    rw [RefFormat.trimI8Decode.go, if_pos (by omega)]
    simp [readFields, Nat.mod_one]
  | b :: rest, acc, al, S, out, m, hb, hR, hal, hout, hS => by
    have hl : S.length = al + 8 * (rest.length + 1) := hR.length
    have hm : m ≠ 0 := by rintro rfl; omega
    have hR' := hR.push (Nat.le_trans (Nat.le_of_lt hal) (Nat.le_trans hb8 (by decide))) (Spec.WF.head hb)
    have hin := trim_inner_spec bits n hb1 _ rest 9 (al + 8) S out m hR' hout hS (by omega)
    rw [RefFormat.trimI8Decode.go, if_neg (by omega)]
    split at hin
    · rename_i hi; simp only [hi, hin]; rfl
    · rename_i al' out' hi
      obtain ⟨S', m', hR'', hal', hout', hS', hread⟩ := hin
      simp only [hi]
      rw [hread]
      exact trim_go_spec bits n hb1 hb8 rest _ al' S' out' m' (Spec.WF.tail hb) hR'' hal' hout' hS'

theorem trimI8Decode_eq (logn bits : Nat) (hb1 : 1 ≤ bits) (hb8 : bits ≤ 8) (buf : List Nat) (hwf : ∀ x ∈ buf, x < 256)
    (L : Nat) (hL : 8 * L = 2 ^ logn * bits) (hlen : L ≤ buf.length) :
    RefFormat.trimI8Decode logn bits buf =
      readFields signedField bits (2 ^ logn) ((bitsOfBytes buf).take (2 ^ logn * bits)) := by
  have hin : (2 ^ logn * bits + 7) / 8 = L := by rw [← hL, Nat.mul_add_div (by decide)]; rfl
  rw [RefFormat.trimI8Decode]
  simp only [hin]
  rw [if_neg (Nat.not_lt.mpr hlen), trim_go_spec bits (2 ^ logn) hb1 hb8 (buf.take L) 0 0 _ [] (2 ^ logn)
    (Spec.WF.take hwf L) (Reads.init _) hb1 (Nat.zero_add _)
    (by rw [bitsOfBytes_length, List.length_take, Nat.min_eq_left hlen, hL]), ← hL, bitsOfBytes_take]
  cases readFields signedField bits (2 ^ logn) (bitsOfBytes (buf.take L)) <;> simp

/-- the frame of both reference imports: a fixed length, a fixed first byte, then the body -/
theorem framed_eq_some_iff {α : Type} (L hd : Nat) (b : List Nat) (o : Option α) (v : α) :
    (if b.length ≠ 1 + L then none else if b.head? ≠ some hd then none else o) = some v ↔
      ∃ tl, b = hd :: tl ∧ tl.length = L ∧ o = some v := by
  cases b with
  | nil => exact iff_of_false (by rw [if_pos (by rw [List.length_nil]; omega)]; nofun) fun ⟨_, e, _⟩ => nomatch e
  | cons a tl =>
    rw [List.length_cons, List.head?_cons, Nat.add_comm]
    by_cases hl : tl.length = L
    · by_cases ha : a = hd
      · rw [if_neg (by omega), if_neg (by rw [ha]; exact fun h => h rfl)]
        exact ⟨fun h => ⟨tl, by rw [ha], hl, h⟩, fun ⟨_, _, _, h⟩ => h⟩
      · rw [if_neg (by omega), if_pos fun h => ha (Option.some.inj h)]
        exact iff_of_false nofun fun ⟨_, e, _⟩ => ha (List.cons.inj e).1
    · rw [if_pos (by omega)]
      exact iff_of_false nofun fun ⟨_, e, h, _⟩ => hl ((List.cons.inj e).2 ▸ h)

theorem _root_.Falcon.KeyCodec.Variant.maxFgBits {logn N wf : Nat} (V : Variant logn N wf) : RefFormat.maxFgBits logn = wf := by
  rcases V with ⟨rfl, _, rfl⟩ | ⟨rfl, _, rfl⟩ <;> rfl

theorem skDecode_eq_some_iff {logn N wf : Nat} (V : Variant logn N wf) {sk : List Nat} (hwf : ∀ x ∈ sk, x < 256)
    {vf vg vF : List Int} : RefFormat.skDecode logn sk = some (vf, vg, vF) ↔ SkEncodes N sk vf vg vF := by
  have hp := V.two_pow
  have hw1 := V.wf_pos
  have hw8 := V.wf_le
  -- a segment of `w`-bit fields takes `N / 8 · w` bytes
  have hbytes : ∀ w, (2 ^ logn * w + 7) / 8 = N / 8 * w := fun w => by rw [hp, V.bytes w, Nat.mul_add_div (by decide)]; rfl
  have hbits : ∀ w, 8 * (N / 8 * w) = 2 ^ logn * w := fun w => by rw [hp, ← V.bytes w]
  rw [RefFormat.skDecode, skEncodes_iff V]
  simp only [V.maxFgBits, RefFormat.maxFGBits, hbytes, Nat.add_assoc 1]
  rw [framed_eq_some_iff]
  refine exists_congr fun tl => and_congr_right fun e => ?_
  subst e
  have wtl := Spec.WF.tail hwf
  simp only [List.drop_succ_cons, List.drop_zero, Nat.add_comm 1]
  -- on a body of the right length the three calls read the three segments of the bit string
  have key : tl.length = N / 8 * wf + N / 8 * wf + N / 8 * 8 → (RefFormat.trimI8Decode logn wf tl = some vf ∧
      RefFormat.trimI8Decode logn wf (tl.drop (N / 8 * wf)) = some vg ∧
      RefFormat.trimI8Decode logn 8 (tl.drop (N / 8 * wf + N / 8 * wf)) = some vF ↔
      Segments N wf wf 8 (bitsOfBytes tl) vf vg vF) := fun hlen => by
    have hB : (bitsOfBytes tl).length = N * wf + N * wf + N * 8 := by
      rw [bitsOfBytes_length, hlen, Nat.mul_add, Nat.mul_add, ← V.bytes wf, ← V.bytes 8]
    have hseg := readSegments_iff N wf wf 8 hw1 hw1 (by decide) (bitsOfBytes tl) vf vg vF
    rw [and_iff_right hB] at hseg
    -- each call finds its segment's bytes: all three, the last two, the last
    have l₁ : N / 8 * wf ≤ tl.length := by rw [hlen, Nat.add_assoc]; exact Nat.le_add_right _ _
    have l₂ : N / 8 * wf ≤ (tl.drop (N / 8 * wf)).length := by
      rw [List.length_drop, hlen, Nat.add_assoc, Nat.add_sub_cancel_left]; exact Nat.le_add_right _ _
    have l₃ : N / 8 * 8 ≤ (tl.drop (N / 8 * wf + N / 8 * wf)).length := by
      rw [List.length_drop, hlen, Nat.add_sub_cancel_left]; exact Nat.le_refl _
    rw [trimI8Decode_eq logn wf hw1 hw8 tl wtl _ (hbits wf) l₁, trimI8Decode_eq logn wf hw1 hw8 _ (wtl.drop _) _ (hbits wf) l₂,
      trimI8Decode_eq logn 8 (by decide) (by decide) _ (wtl.drop _) _ (hbits 8) l₃,
      ← bitsOfBytes_drop, ← bitsOfBytes_drop, Nat.mul_add, ← V.bytes wf, hp, hseg]
  refine Iff.trans (and_congr_right fun _ => ?_) ⟨fun ⟨hlen, hd⟩ => (key hlen).mp hd, fun hS => ?_⟩
  · -- the triple `match` returns `some` exactly when all three calls do
    generalize RefFormat.trimI8Decode logn wf tl = x
    generalize RefFormat.trimI8Decode logn wf (tl.drop (N / 8 * wf)) = y
    generalize RefFormat.trimI8Decode logn 8 (tl.drop (N / 8 * wf + N / 8 * wf)) = z
    cases x <;> cases y <;> cases z <;> simp
  · have hlen := SkEncodes.length V ((skEncodes_iff V).mpr ⟨tl, rfl, hS⟩)
    rw [List.length_cons, Nat.add_assoc 1, Nat.add_assoc 1, Nat.add_comm, Nat.add_left_cancel_iff] at hlen
    exact ⟨hlen, (key hlen).mpr hS⟩

theorem modq_go_spec (n : Nat) : ∀ (bs : List Nat) (acc al : Nat) (S : List Bool) (out : List Nat) (m : Nat),
    (∀ x ∈ bs, x < 256) → Reads acc al bs S → al < 14 → out.length + m = n → S.length = m * 14 →
    RefFormat.modqDecode.go n bs acc al out = (readFields modqField 14 m S).map (out.reverse ++ ·)
  | [], acc, al, S, out, m, _, hR, hal, hout, hS => by
    have hl : S.length = al := hR.length
    obtain rfl : m = 0 := by omega
    obtain rfl : al = 0 := by omega
    -- all n fields are out and nothing is pending: `acc % 2 ^ 0` is 0
    rw [RefFormat.modqDecode.go, if_pos (Nat.le_of_eq hout.symm : n ≤ out.length), Nat.pow_zero, Nat.mod_one,
      if_neg (fun h => h rfl)]
    exact congrArg some (List.append_nil _).symm
  | b :: rest, acc, al, S, out, m, hb, hR, hal, hout, hS => by
    have hl : S.length = al + 8 * (rest.length + 1) := hR.length
    have hm : m ≠ 0 := by rintro rfl; omega
    obtain ⟨m, rfl⟩ := Nat.exists_eq_succ_of_ne_zero hm
    have hR' := hR.push (Nat.le_trans (Nat.le_of_lt hal) (by decide)) (Spec.WF.head hb)
    rw [RefFormat.modqDecode.go, if_neg (by omega)]
    by_cases h14 : al + 8 ≥ 14
    · -- the side conditions of the recursive call, stated before the equation of the popped field, with its `/` and `%`,
      -- slows `omega` down
      have hal' : al + 8 - 14 < 14 := by omega
      have hout' : out.length + 1 + m = n := by omega
      have hS' : (S.drop 14).length = m * 14 := by rw [List.length_drop, hS, Nat.succ_mul, Nat.add_sub_cancel]
      obtain ⟨hw, hR''⟩ := hR'.pop 14 h14
      simp only [h14, if_true, show (16384 : Nat) = 2 ^ 14 from rfl, hw, readFields, modqField]
      split
      · rfl
      · rw [modq_go_spec n rest _ _ _ (_ :: out) m (Spec.WF.tail hb) hR'' hal' hout' hS']
        exact (map_cons_reverse _ out _).symm
    · simp only [h14, if_false]
      exact modq_go_spec n rest _ _ _ out (m + 1) (Spec.WF.tail hb) hR' (Nat.lt_of_not_le h14) hout hS

theorem modqDecode_eq (logn : Nat) (buf : List Nat) (hwf : ∀ x ∈ buf, x < 256) (L : Nat) (hL : 8 * L = 2 ^ logn * 14)
    (hlen : L ≤ buf.length) :
    RefFormat.modqDecode logn buf = readFields modqField 14 (2 ^ logn) ((bitsOfBytes buf).take (2 ^ logn * 14)) := by
  have hin : (2 ^ logn * 14 + 7) / 8 = L := by rw [← hL, Nat.mul_add_div (by decide)]; rfl
  rw [RefFormat.modqDecode]
  simp only [hin]
  rw [if_neg (Nat.not_lt.mpr hlen), modq_go_spec (2 ^ logn) (buf.take L) 0 0 _ [] (2 ^ logn)
    (Spec.WF.take hwf L) (Reads.init _) (by decide) (Nat.zero_add _)
    (by rw [bitsOfBytes_length, List.length_take, Nat.min_eq_left hlen, hL]), ← hL, bitsOfBytes_take]
  cases readFields modqField 14 (2 ^ logn) (bitsOfBytes (buf.take L)) <;> simp

theorem pkDecode_eq_some_iff {logn N wf : Nat} (V : Variant logn N wf) {pk : List Nat} (hwf : ∀ x ∈ pk, x < 256) {h : List Nat} :
    RefFormat.pkDecode logn pk = some h ↔ PkEncodes N pk h := by
  have hp := V.two_pow
  have hb := V.bytes 14
  rw [RefFormat.pkDecode, (by rw [hp, hb, Nat.mul_div_cancel_left _ (by decide)] : 2 ^ logn * 14 / 8 = N / 8 * 14),
    framed_eq_some_iff, pkEncodes_iff V]
  refine exists_congr fun tl => and_congr_right fun e => ?_
  subst e
  -- on a body of the right length `modq_decode` reads all of its bits as N fields
  have key : tl.length = N / 8 * 14 → (RefFormat.modqDecode logn tl = some h ↔
      (∀ x ∈ h, x < 12289) ∧ h.length = N ∧ bitsOfBytes tl = (h.map fun (x : Nat) => intBits 14 (x : Int)).flatten) := fun hlen => by
    have hB : (bitsOfBytes tl).length = N * 14 := by rw [bitsOfBytes_length, hlen, ← hb]
    rw [modqDecode_eq logn tl (Spec.WF.tail hwf) (N / 8 * 14) (by rw [hp, ← hb]) (Nat.le_of_eq hlen.symm),
      hp, List.take_of_length_le (Nat.le_of_eq hB), readFields_modq_iff N _ hB, @eq_comm _ (bitsOfBytes tl)]
  constructor
  · rintro ⟨hlen, hd⟩; exact (key hlen).mp hd
  · intro hE
    have hlen := PkEncodes.length V ((pkEncodes_iff V).mpr ⟨tl, rfl, hE⟩)
    rw [List.length_cons, Nat.add_comm, Nat.add_left_cancel_iff] at hlen
    exact ⟨hlen, (key hlen).mpr hE⟩

theorem pkDecode_eq {logn N wf : Nat} (V : Variant logn N wf) (pk : List Nat) (hwf : ∀ x ∈ pk, x < 256) :
    RefFormat.pkDecode logn pk = (match pkFromBytes N pk with | .ok (.ok h) => some h | _ => none) := by
  obtain ⟨r, hr, hP⟩ := pkFromBytes_decodes N pk
  rw [hr]
  cases r with
  | ok h => exact (pkDecode_eq_some_iff V hwf).mpr ((hP h).mp rfl)
  | error e =>
    exact Option.eq_none_iff_forall_ne_some.mpr fun h e' => nomatch (hP h).mpr ((pkDecode_eq_some_iff V hwf).mp e')

/-- the reference returns signed coefficients, this library their residues -/
theorem skDecode_eq {logn N wf : Nat} (V : Variant logn N wf) (sk : List Nat) (hwf : ∀ x ∈ sk, x < 256) :
    (RefFormat.skDecode logn sk).map (fun t => (t.1.map Zq.new, t.2.1.map Zq.new, t.2.2.map Zq.new)) =
      (match skFromBytes N sk with | .ok (.ok t) => some t | _ => none) := by
  obtain ⟨r, hr, hP⟩ := skFromBytes_decodes N sk
  rw [hr]
  cases r with
  | ok t =>
    obtain ⟨vf, vg, vF, hE, e1, e2, e3⟩ := (hP t).mp rfl
    rw [(skDecode_eq_some_iff V hwf).mpr hE, Option.map_some, ← e1, ← e2, ← e3]
  | error e =>
    refine Option.eq_none_iff_forall_ne_some.mpr fun t e' => ?_
    obtain ⟨⟨vf, vg, vF⟩, href, rfl⟩ := Option.map_eq_some_iff.mp e'
    exact nomatch (hP (vf.map Zq.new, vg.map Zq.new, vF.map Zq.new)).mpr
      ⟨vf, vg, vF, (skDecode_eq_some_iff V hwf).mp href, rfl, rfl, rfl⟩

end Falcon.RefEq

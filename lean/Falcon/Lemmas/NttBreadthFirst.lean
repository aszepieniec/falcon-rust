import Falcon.Lemmas.Network

/-!
  The forward transform in the order the Rust code runs it — breadth first, one stage after the other over the whole
  array, the stage with m blocks using the twiddles `psi_rev[m + i]` for block i (cyclotomic_fourier.rs: `while m < n { t >>= 1;
  for i in 0..m { j1 = 2·i·t; s = psi_rev[m + i]; for j in j1..j1+t { butterfly(a[j], a[j+t], s) } } m <<= 1 }`) — computes
  exactly what the depth-first network `nttRecO` of the model computes; likewise the inverse transform, whose stages merge
  consecutive blocks pairwise, and `inttRecO`.  `nttBF` / `inttBF` render the loop nests on lists: the array is the list of
  its blocks, block i of a stage is `a[j1 .. j1 + 2t)`, its halves (`take`/`drop`) are the operands `a[j]`, `a[j + t]`;
  that reading of the in-place indexing is by inspection (the renderings are not run against the Rust code).
  The statements are about ANY operations (no algebraic law is used: the
  same additions, subtractions and multiplications are applied to the same operands, only the order of traversal
  differs), so they hold for the floating-point instance bit for bit, for the exact rings of the proofs, and for the
  modular instances.  Both proofs go level by level: `dfAll` is the row of depth-first networks hanging from one level of
  the tree, and one stage moves that row up or down by a level (`stage_then_df`, `merge_df`).  Core Lean only.
-/
namespace Falcon.FftFlt

variable {α : Type}

/-- one stage: every block is split in halves and butterflied with its own twiddle (block i of the stage that starts
    at twiddle index k uses `T (k + i)`) -/
def stageO (o : Ops α) (T : Nat → α) : Nat → List (List α) → List (List α)
  | _, [] => []
  | k, b :: bs =>
    let h := b.length / 2
    let lo := b.take h; let hi := b.drop h; let s := T k
    List.zipWith (fun u v => o.add u (o.mul v s)) lo hi :: List.zipWith (fun u v => o.sub u (o.mul v s)) lo hi ::
      stageO o T (k + 1) bs

/-- `d` stages, the first one starting at twiddle index `m` (= number of blocks) -/
def bfO (o : Ops α) (T : Nat → α) : Nat → Nat → List (List α) → List (List α)
  | 0, _, bs => bs
  | d + 1, m, bs => bfO o T d (2 * m) (stageO o T m bs)

/-- the breadth-first forward transform of a vector of length 2^d: one block, d stages -/
def nttBF (o : Ops α) (T : Nat → α) (d : Nat) (a : List α) : List α := (bfO o T d 1 [a]).flatten

/-- consecutive blocks through consecutive networks, block i through `net (k + i)`: with `net = nttRecO o T d` (or
    `inttRecO o TI d`) the depth-first networks hanging side by side from the nodes k, k + 1, … of one level of the tree -/
def dfAll (net : Nat → List α → List α) : Nat → List (List α) → List (List α)
  | _, [] => []
  | k, b :: bs => net k b :: dfAll net (k + 1) bs

theorem dfAll_id (net : Nat → List α → List α) (h : ∀ k b, net k b = b) : ∀ (k : Nat) (bs : List (List α)),
    dfAll net k bs = bs
  | _, [] => rfl
  | k, b :: bs => by rw [dfAll, h, dfAll_id net h (k + 1) bs]

/-- on a block of length 2^(d+1) a stage is the top layer of `nttRecO` -/
theorem stageO_cons (o : Ops α) (T : Nat → α) {d : Nat} {b : List α} (h : b.length = 2 ^ (d + 1)) (k : Nat)
    (bs : List (List α)) :
    stageO o T k (b :: bs) =
      List.zipWith (fun u v => o.add u (o.mul v (T k))) (b.take (2 ^ d)) (b.drop (2 ^ d)) ::
      List.zipWith (fun u v => o.sub u (o.mul v (T k))) (b.take (2 ^ d)) (b.drop (2 ^ d)) :: stageO o T (k + 1) bs := by
  rw [stageO, h, Nat.pow_succ, Nat.mul_div_cancel _ Nat.two_pos]

theorem stage_lengths (o : Ops α) (T : Nat → α) (d : Nat) : ∀ (k : Nat) (bs : List (List α)),
    (∀ b ∈ bs, b.length = 2 ^ (d + 1)) → ∀ b ∈ stageO o T k bs, b.length = 2 ^ d
  | _, [], _ => by simp [stageO]
  | k, b0 :: bs, hl => by
    rw [List.forall_mem_cons] at hl
    simp only [stageO_cons o T hl.1, List.forall_mem_cons]
    exact ⟨zipWith_halves_length hl.1 _, zipWith_halves_length hl.1 _, stage_lengths o T d (k + 1) bs hl.2⟩

theorem stage_then_df (o : Ops α) (T : Nat → α) (d : Nat) : ∀ (k : Nat) (bs : List (List α)),
    (∀ b ∈ bs, b.length = 2 ^ (d + 1)) →
    (dfAll (nttRecO o T d) (2 * k) (stageO o T k bs)).flatten = (dfAll (nttRecO o T (d + 1)) k bs).flatten
  | _, [], _ => rfl
  | k, b0 :: bs, hl => by
    rw [List.forall_mem_cons] at hl
    have e : 2 * k + 1 + 1 = 2 * (k + 1) := by omega
    -- the halves of the head block go through the networks at the children 2k, 2k + 1 of node k: together they are
    -- `nttRecO o T (d + 1) k b0` unfolded once; the other blocks follow by the hypothesis at k + 1
    simp only [stageO_cons o T hl.1, dfAll, nttRecO, e, List.flatten_cons, stage_then_df o T d (k + 1) bs hl.2,
      List.append_assoc]

theorem bf_eq_df (o : Ops α) (T : Nat → α) : ∀ (d m : Nat) (bs : List (List α)),
    (∀ b ∈ bs, b.length = 2 ^ d) → (bfO o T d m bs).flatten = (dfAll (nttRecO o T d) m bs).flatten
  | 0, m, bs, _ => by rw [bfO, dfAll_id (nttRecO o T 0) fun _ _ => rfl]
  | d + 1, m, bs, hl => by
    rw [bfO, bf_eq_df o T d (2 * m) _ (stage_lengths o T d m bs hl), stage_then_df o T d m bs hl]

theorem nttBF_eq_nttRecO (o : Ops α) (T : Nat → α) (d : Nat) (a : List α) (ha : a.length = 2 ^ d) :
    nttBF o T d a = nttRecO o T d 1 a := by
  rw [nttBF, bf_eq_df o T d 1 [a] (by simpa using ha)]
  simp [dfAll]

/-- one stage of the inverse transform: consecutive blocks are merged pairwise, pair i of the stage whose parents start
    at twiddle index p using `TI (p + i)` (Gentleman–Sande butterflies: `(u + v, (u − v)·s)`) -/
def mergeStageO (o : Ops α) (TI : Nat → α) : Nat → List (List α) → List (List α)
  | p, x :: y :: rest =>
    (List.zipWith o.add x y ++ List.zipWith (fun u v => o.mul (o.sub u v) (TI p)) x y) :: mergeStageO o TI (p + 1) rest
  | _, _ => []

/-- `r` stages, the last one with parents starting at twiddle index `p` (so the first one starts at `p·2^(r−1)`) -/
def bfInvO (o : Ops α) (TI : Nat → α) : Nat → Nat → List (List α) → List (List α)
  | 0, _, bs => bs
  | r + 1, p, bs => mergeStageO o TI p (bfInvO o TI r (2 * p) bs)

/-- the breadth-first inverse transform (without the final scaling) of a vector of length 2^d -/
def inttBF (o : Ops α) (TI : Nat → α) (d : Nat) (a : List α) : List α := (bfInvO o TI d 1 (a.map fun x => [x])).flatten

/-- every segment (of length 2^(r+1)) cut into its two halves -/
def halves (r : Nat) : List (List α) → List (List α)
  | [] => []
  | s :: ss => s.take (2 ^ r) :: s.drop (2 ^ r) :: halves r ss

theorem halves_flatten (r : Nat) : ∀ (segs : List (List α)), (halves r segs).flatten = segs.flatten
  | [] => rfl
  | s :: ss => by simp [halves, halves_flatten r ss, ← List.append_assoc, List.take_append_drop]

theorem halves_lengths (r : Nat) : ∀ (segs : List (List α)), (∀ s ∈ segs, s.length = 2 ^ (r + 1)) →
    ∀ s ∈ halves r segs, s.length = 2 ^ r
  | [], _ => by simp [halves]
  | s0 :: ss, hl => by
    rw [List.forall_mem_cons] at hl
    simp only [halves, List.forall_mem_cons]
    exact ⟨(halves_length hl.1).1, (halves_length hl.1).2, halves_lengths r ss hl.2⟩

theorem merge_df (o : Ops α) (TI : Nat → α) (r : Nat) : ∀ (p : Nat) (segs : List (List α)),
    mergeStageO o TI p (dfAll (inttRecO o TI r) (2 * p) (halves r segs)) = dfAll (inttRecO o TI (r + 1)) p segs
  | _, [] => rfl
  | p, s :: ss => by
    have e : 2 * p + 1 + 1 = 2 * (p + 1) := by omega
    -- the halves of the head segment through the networks at the children 2p, 2p + 1, then merged with `TI p`:
    -- `inttRecO o TI (r + 1) p s` unfolded once; the other segments follow by the hypothesis at p + 1
    simp only [halves, dfAll, mergeStageO, inttRecO, e, merge_df o TI r (p + 1) ss]

theorem map_singleton_flatten : ∀ (segs : List (List α)), (∀ s ∈ segs, s.length = 1) →
    segs.flatten.map (fun x => [x]) = segs
  | [], _ => rfl
  | [x] :: ss, h => by
    rw [List.flatten_cons, List.singleton_append, List.map_cons,
      map_singleton_flatten ss fun s hs => h s (List.mem_cons_of_mem _ hs)]
  | [] :: _, h | (_ :: _ :: _) :: _, h => by simp at h

theorem bfInv_eq_df (o : Ops α) (TI : Nat → α) : ∀ (r p : Nat) (segs : List (List α)),
    (∀ s ∈ segs, s.length = 2 ^ r) → bfInvO o TI r p (segs.flatten.map fun x => [x]) = dfAll (inttRecO o TI r) p segs
  | 0, p, segs, hl => by
    rw [bfInvO, dfAll_id (inttRecO o TI 0) fun _ _ => rfl, map_singleton_flatten segs (by simpa using hl)]
  | r + 1, p, segs, hl => by
    rw [bfInvO, ← halves_flatten r segs, bfInv_eq_df o TI r (2 * p) _ (halves_lengths r segs hl), merge_df]

theorem inttBF_eq_inttRecO (o : Ops α) (TI : Nat → α) (d : Nat) (a : List α) (ha : a.length = 2 ^ d) :
    inttBF o TI d a = inttRecO o TI d 1 a := by
  have h := bfInv_eq_df o TI d 1 [a] (by simpa using ha)
  rw [List.flatten_singleton] at h
  rw [inttBF, h]
  simp [dfAll]

end Falcon.FftFlt

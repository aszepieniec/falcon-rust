import Falcon.Lemmas.Keys

/-!
# C06 — decoding is strict

Theorems on the model `Falcon.KeyCodec` of the `from_bytes` / `to_bytes` pairs in falcon.rs.
Proved here for all byte strings: signature decoding is strict (accepted ⇒ re-encodes identically) and the
rejection rules for lengths, headers, variants and out-of-range fields of all three types; the two key decoders
are strict as well (`public_key_strict`, `secret_key_strict`: bit-chunk reassembly, unsigned 14-bit and
two's-complement 5/6/8-bit fields, for every byte string).
-/
namespace Falcon.Props.C06
open Falcon Falcon.KeyCodec

/-- the format constants extracted from falcon.rs are the ones the property and the specification name -/
theorem source_constants :
    Gen.pkLen = [(897, 512), (1793, 1024)] ∧ Gen.pkWidth = 14 ∧ Gen.pkWidthEnc = 14 ∧
    Gen.sigBytelen512 = 666 ∧ Gen.sigBytelen1024 = 1280 ∧ Gen.saltLen = 40 ∧ Gen.saltEnd = 40 ∧ Gen.sigBodyOffset = 41 ∧
    Gen.sigFeltEncoding = 2 ∧ Gen.sigFeltEncodingDec = 2 ∧
    Gen.skWidthFG512 = 6 ∧ Gen.skWidthFG1024 = 5 ∧ Gen.skWidthCapF = 8 ∧
    Gen.skHeaderHi = 5 ∧ Gen.skHeaderShift = 4 ∧ Gen.skHeaderChkShift = 4 ∧ Gen.skHeaderChkVal = 5 ∧
    Gen.skLogn = [(9, 512), (10, 1024)] := by
  refine ⟨rfl, rfl, rfl, rfl, rfl, rfl, rfl, rfl, rfl, rfl, rfl, rfl, rfl, rfl, rfl, rfl, rfl, rfl⟩

/-- no slack bits in the secret-key format: 512·(6+6+8) and 1024·(5+5+8) are multiples of 8, and the
    public key lengths are the ones in the property -/
theorem sizes : 1 + 512 * (6 + 6 + 8) / 8 = 1281 ∧ 512 * 20 % 8 = 0 ∧ 1 + 1024 * (5 + 5 + 8) / 8 = 2305 ∧ 1024 * 18 % 8 = 0 ∧
    1 + 512 * 14 / 8 = 897 ∧ 512 * 14 % 8 = 0 ∧ 1 + 1024 * 14 / 8 = 1793 ∧ 1024 * 14 % 8 = 0 := by decide

/-- a signature string of any other length is rejected -/
theorem sig_wrong_length (N : Nat) (b : List Nat) (h : b.length ≠ 666 ∧ b.length ≠ 1280) :
    sigFromBytes N b = .ok (.error .CannotInferFalconVariant) := by
  have : sigN b.length = none := by
    simp [sigN, Gen.sigBytelen512, Gen.sigBytelen1024, h.1, h.2]
  simp [sigFromBytes, this]

/-- the other variant's signature is rejected -/
theorem sig_wrong_variant (b : List Nat) :
    (b.length = 1280 → sigFromBytes 512 b = .ok (.error .WrongVariant)) ∧
    (b.length = 666 → sigFromBytes 1024 b = .ok (.error .WrongVariant)) := by
  constructor <;> intro h <;> simp [sigFromBytes, sigN, Gen.sigBytelen512, Gen.sigBytelen1024, h]

/-- decoding never panics and accepts only the one canonical header byte; an accepted string re-encodes
    to itself bit for bit -/
theorem sig_strict (N : Nat) (b : List Nat) :
    ∃ r, sigFromBytes N b = .ok r ∧
      ∀ salt s, r = .ok (salt, s) →
        sigToBytes salt s = b ∧ ((N = 512 ∧ b.length = 666 ∧ b.head? = some 0x59) ∨ (N = 1024 ∧ b.length = 1280 ∧ b.head? = some 0x5a)) := by
  obtain ⟨r, hr⟩ := (sigFromBytes_decodes N b).total
  refine ⟨r, hr, fun salt s e => ?_⟩
  obtain ⟨L, hNL, h40, hL, rfl⟩ := (sigFromBytes_ok_iff N b salt s).mp (e ▸ hr)
  refine ⟨rfl, ?_⟩
  rw [sigToBytes_length, sigToBytes, h40, hL]
  rcases hNL with ⟨rfl, rfl⟩ | ⟨rfl, rfl⟩
  · exact .inl ⟨rfl, rfl, rfl⟩
  · exact .inr ⟨rfl, rfl, rfl⟩

/-- a public-key string of any other length is rejected -/
theorem pk_wrong_length (N : Nat) (b : List Nat) (h : b.length ≠ 897 ∧ b.length ≠ 1793) :
    pkFromBytes N b = .ok (.error .BadEncodingLength) := by
  have e1 : (b.length == 897) = false := by simp [h.1]
  have e2 : (b.length == 1793) = false := by simp [h.2]
  have : Gen.pkLen.lookup b.length = none := by
    simp only [Gen.pkLen, List.lookup, e1, e2]
  simp [pkFromBytes, this]

/-- the other variant's public key is rejected -/
theorem pk_wrong_variant (b : List Nat) :
    (b.length = 1793 → pkFromBytes 512 b = .ok (.error .WrongVariant)) ∧
    (b.length = 897 → pkFromBytes 1024 b = .ok (.error .WrongVariant)) := by
  constructor <;> intro h <;> simp [pkFromBytes, Gen.pkLen, List.lookup, h]

/-- public-key decoding never panics -/
theorem pk_total (N : Nat) (b : List Nat) : ∃ r, pkFromBytes N b = .ok r := (pkFromBytes_decodes N b).total

/-- a header byte other than log2 n is rejected (stated for n = 512: 9) -/
theorem pk_bad_header (hd : Nat) (tl : List Nat) (h : (hd :: tl).length = 897) (hh : hd ≠ 9) :
    ∃ e, pkFromBytes 512 (hd :: tl) = .ok (.error e) :=
  (pkFromBytes_decodes 512 (hd :: tl)).rejects fun _ hE => by
    obtain ⟨_, e, _⟩ := (pkEncodes_iff .f512).mp hE
    exact hh (List.cons.inj e).1

/-- the reserved pattern `10…0` (the value −2^(w−1)) is rejected in every field width -/
theorem sk_reserved_rejected (k : Nat) : deserializeField (true :: List.replicate k false) = none := by
  simp [deserializeField]

/-- a secret-key header whose high nibble is not 5 is rejected -/
theorem sk_bad_header (N : Nat) (hd b1 : Nat) (tl : List Nat) (h : hd / 16 ≠ 5) :
    skFromBytes N (hd :: b1 :: tl) = .ok (.error .InvalidHeaderFormat) := by
  have hlen : ¬ ((hd :: b1 :: tl).length < 2) := by simp
  simp only [skFromBytes, hlen, if_false, idx, List.getElem?_cons_zero, Res.bind_ok, Gen.skHeaderChkShift,
    Gen.skHeaderChkVal]
  have : hd / 2 ^ 4 ≠ 5 := by simpa using h
  rw [if_pos this]; rfl

/-- strings shorter than two bytes are rejected -/
theorem sk_too_short (N : Nat) (b : List Nat) (h : b.length < 2) :
    skFromBytes N b = .ok (.error .BadEncodingLength) := by
  simp [skFromBytes, h]

/-- **public keys**: an accepted string re-encodes to itself; the decoded vector has N canonical coefficients -/
theorem public_key_strict (N : Nat) (b : List Nat) (hb : ∀ x ∈ b, x < 256) (h : List Nat)
    (hacc : pkFromBytes N b = .ok (.ok h)) :
    pkToBytes h = b ∧ h.length = N ∧ ∀ x ∈ h, x < 12289 := by
  have hE := (pkFromBytes_ok_iff N b h).mp hacc
  obtain ⟨logn, wf, V⟩ := hE.variant
  obtain ⟨tl, rfl, hq, hl, hbits⟩ := (pkEncodes_iff V).mp hE
  exact ⟨by rw [pkToBytes_eq V h hl hq, ← hbits, bytesOfBits_bitsOfBytes tl (Spec.WF.tail hb)], hl, hq⟩

/-- **secret keys** (the stored polynomials): an accepted string re-encodes to itself — serialising the decoded
    residues (centred, two's complement, widths 6/6/8 or 5/5/8) gives back every bit, without overflow in either
    build mode -/
theorem secret_key_strict (chk : Bool) (N : Nat) (b : List Nat) (hb : ∀ x ∈ b, x < 256) (f g cF : List Nat)
    (hacc : skFromBytes N b = .ok (.ok (f, g, cF))) :
    skToBytes chk (f.map fun (r : Nat) => (r : Int)) (g.map fun (r : Nat) => (r : Int))
        (cF.map fun (r : Nat) => (r : Int)) = .ok b ∧ f.length = N ∧ g.length = N ∧ cF.length = N := by
  refine ⟨?_, sk_decoded_length N b f g cF hacc⟩
  obtain ⟨vf, vg, vF, hE, rfl, rfl, rfl⟩ := (skFromBytes_ok_iff N b f g cF).mp hacc
  obtain ⟨logn, wf, V⟩ := hE.variant
  obtain ⟨tl, rfl, ⟨rf, _⟩, ⟨rg, lg⟩, ⟨rF, _⟩, hbits⟩ := (skEncodes_iff V).mp hE
  have hnew : ∀ l : List Int, ((l.map Zq.new).map fun (r : Nat) => (r : Int)).map Zq.new = l.map Zq.new := fun l => by
    simp [Zq.new_natCast_new]
  rw [skToBytes_eq chk V vf vg vF _ _ _ (by simp [lg]) rf rg rF (hnew _) (hnew _) (hnew _), ← hbits,
    bytesOfBits_bitsOfBytes tl (Spec.WF.tail hb)]

/-- hence no two distinct strings decode to the same public key -/
theorem public_key_decode_injective (N : Nat) (b b' : List Nat) (hb : ∀ x ∈ b, x < 256) (hb' : ∀ x ∈ b', x < 256)
    (h : List Nat) (h1 : pkFromBytes N b = .ok (.ok h)) (h2 : pkFromBytes N b' = .ok (.ok h)) : b = b' := by
  rw [← (public_key_strict N b hb h h1).1, ← (public_key_strict N b' hb' h h2).1]

/-- … nor to the same secret key -/
theorem secret_key_decode_injective (N : Nat) (b b' : List Nat) (hb : ∀ x ∈ b, x < 256) (hb' : ∀ x ∈ b', x < 256)
    (f g cF : List Nat) (h1 : skFromBytes N b = .ok (.ok (f, g, cF))) (h2 : skFromBytes N b' = .ok (.ok (f, g, cF))) :
    b = b' := by
  have e1 := (secret_key_strict true N b hb f g cF h1).1
  have e2 := (secret_key_strict true N b' hb' f g cF h2).1
  rw [e1] at e2
  injection e2

/-- … nor to the same signature object: two byte strings that `Signature::from_bytes` decodes to the same (salt, body)
    are equal (every byte string, both variants) -/
theorem signature_decode_injective (N : Nat) (b b' : List Nat) (salt s : List Nat)
    (h1 : sigFromBytes N b = .ok (.ok (salt, s))) (h2 : sigFromBytes N b' = .ok (.ok (salt, s))) : b = b' := by
  obtain ⟨_, hr, hs⟩ := sig_strict N b
  obtain ⟨_, hr', hs'⟩ := sig_strict N b'
  rw [← (hs salt s (Res.ok.inj (hr.symm.trans h1))).1, ← (hs' salt s (Res.ok.inj (hr'.symm.trans h2))).1]

/-! ### non-vacuity: concrete strings on both sides of the rules -/
example : (match sigFromBytes 512 (0x59 :: List.replicate 665 7) with
    | .ok (.ok (salt, s)) => salt == List.replicate 40 7 && s == List.replicate 625 7 | _ => false) = true := by decide +kernel
example : (match pkFromBytes 512 (9 :: List.replicate 896 0) with
    | .ok (.ok h) => h == List.replicate 512 0 | _ => false) = true := by
  -- by hand, through what an encoding is, because `decide +kernel` on the accepting path (512 fields read) takes 4.4 s:
  -- 896 zero bytes are 512 zero fields of 14 bits
  have hE : PkEncodes 512 (9 :: List.replicate 896 0) (List.replicate 512 0) :=
    ⟨9, 6, .f512, _, rfl, fun x hx => by rw [List.eq_of_mem_replicate hx]; decide, List.length_replicate, by
      rw [bitsOfBytes, List.flatMap_replicate, List.map_replicate, show byteBits 0 = List.replicate 8 false from rfl,
        show intBits 14 ((0 : Nat) : Int) = List.replicate 14 false from rfl, List.flatten_replicate_replicate,
        List.flatten_replicate_replicate]⟩
  rw [(pkFromBytes_ok_iff 512 _ _).mpr hE]
  exact beq_self_eq_true _
example : (match pkFromBytes 512 (9 :: List.replicate 896 255) with
    | .ok (.error e) => e == .BadFieldElementEncoding | _ => false) = true := by decide +kernel

end Falcon.Props.C06

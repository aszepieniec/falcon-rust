import Falcon.Model.SignFlt
import Falcon.Lemmas.CompressRefine
import Falcon.Lemmas.Keys

/-!
Two facts about the complete signing model `SignFlt.sign` (compared byte for byte with the real `sign`).  Its
sampler-driven recursion `ffsamplingR` is the generic `FfS.ffsampling` — the definition the nearest-plane identity is
proved about — fed with the integers the leaf sampler returned.  And whatever the two retry loops do, what it returns
is the salt it drew first and a compressed body of the budgeted length, so it has the variant's size and parses back.  Core Lean only.
-/
namespace Falcon.SignFlt
open Falcon Falcon.FftFlt Falcon.FfS

theorem ofInts_append (a b : List Int) : ofInts (a ++ b) = ofInts a ++ ofInts b := by simp [ofInts]

theorem ffsamplingR_generic (chk : Bool) (sigmin : Float) : ∀ (tree : Tree C) (t0 t1 : List C) (st : List Nat)
    (z0 z1 : List C) (st' : List Nat) (zs : List Int),
    ffsamplingR chk sigmin tree t0 t1 st = .ok (some (z0, z1, st', zs)) →
    ∀ rest, ffsampling cfops T TI tree t0 t1 (ofInts zs ++ rest) = (z0, z1, rest) := by
  intro tree
  induction tree with
  | leaf v =>
    intro t0 t1 st z0 z1 st' zs h rest
    rw [ffsamplingR] at h
    obtain ⟨_ | ⟨a0, u0⟩, -, h⟩ := Res.bind_eq_ok.mp h
    · nomatch h
    obtain ⟨_ | ⟨a1, u1⟩, -, h⟩ := Res.bind_eq_ok.mp h
    · nomatch h
    cases h
    rfl
  | branch l left right ihl ihr =>
    intro t0 t1 st z0 z1 st' zs h rest
    simp only [ffsamplingR] at h
    obtain ⟨_ | ⟨z1a, z1b, st1, d1⟩, hr, h⟩ := Res.bind_eq_ok.mp h
    · nomatch h
    obtain ⟨_ | ⟨z0a, z0b, st2, d0⟩, hl, h⟩ := Res.bind_eq_ok.mp h
    · nomatch h
    cases h
    -- the right subtree consumes its integers first, then the left one
    have e1 := ihr _ _ _ _ _ _ _ hr (ofInts d0 ++ rest)
    have e0 := ihl _ _ _ _ _ _ _ hl rest
    rw [ofInts_append, List.append_assoc]
    simp only [ffsampling, e1]
    -- `e0` has `cadd`, `cmul`, `csub` where the goal has the fields of `cfops`, which they are
    erw [e0]

theorem outer_salt (chk : Bool) (cx : Ctx) (salt : List Nat) : ∀ (fuel : Nat) (st : List Nat) (rej retries : Nat)
    (sig : List Nat) (a b : Nat) (zs : List Int),
    outer chk cx salt fuel st rej retries = .ok (.ok (sig, a, b, zs)) →
    ∃ body, sig = KeyCodec.sigToBytes salt body ∧ body.length = cx.budget := by
  intro fuel
  induction fuel with
  | zero => intro st rej retries sig a b zs h; nomatch h
  | succ fuel ih =>
    intro st rej retries sig a b zs h
    rw [outer] at h
    split at h
    · nomatch h
    obtain ⟨_ | ⟨s2, st', rej', zs'⟩, -, h⟩ := Res.bind_eq_ok.mp h
    · nomatch h
    -- a point that does not compress to the budget is a retry; one that does is returned after the salt
    simp only [Codec.compress_eq_spec s2 cx.budget, Res.bind_ok] at h
    cases ho : Spec.compressRef s2 cx.budget with
    | none => rw [ho] at h; exact ih _ _ _ _ _ _ _ h
    | some body =>
      rw [ho] at h
      cases h
      exact ⟨body, rfl, Spec.compressRef_length ho⟩

/-- **every signature the model of `sign` returns is well formed**: for both variants, every key, message and generator
    stream, however many times the norm test or the compression made it retry — it has the variant's fixed size
    (666 / 1280 bytes), its salt is the first 40 bytes the generator yielded in this call, and `Signature::from_bytes`
    parses it back into that salt and the compressed body -/
theorem sign_wellformed (chk : Bool) (N L : Nat) (hNL : (N = 512 ∧ L = 625) ∨ (N = 1024 ∧ L = 1239))
    (b0 : List (List Int)) (msg stream sig : List Nat) (a b : Nat) (zs : List Int)
    (h : sign chk N b0 msg stream = .ok (.ok (sig, a, b, zs))) :
    ∃ body, sig = KeyCodec.sigToBytes (stream.take 40) body ∧ sig.length = 41 + L ∧
      KeyCodec.sigFromBytes N sig = .ok (.ok (stream.take 40, body)) := by
  unfold sign at h
  obtain ⟨P, -, h⟩ := Res.bind_eq_ok.mp h
  split at h
  · nomatch h
  · rename_i hlen
    obtain ⟨body, rfl, hb⟩ := outer_salt chk _ _ _ _ _ _ _ _ _ _ h
    have hsalt : (stream.take 40).length = 40 := by rw [List.length_take]; omega
    have hbL : body.length = L := hb.trans (KeyCodec.sig_budget hNL)
    refine ⟨body, rfl, ?_, KeyCodec.sig_parse N L _ body hsalt hbL hNL⟩
    rw [KeyCodec.sigToBytes_length, hsalt, hbL]

end Falcon.SignFlt

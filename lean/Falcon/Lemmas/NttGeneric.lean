import Mathlib.Tactic.Ring
import Mathlib.Tactic.LinearCombination
import Falcon.Lemmas.Network

/-!
The structural theorems about the transforms (C11, C13, C17, and through `ModNtt` every property that multiplies modulo q),
over an arbitrary commutative ring, for every depth and every input.
First the link to the model: the ring network `nttRec` / `inttRec` is the network `nttRecO` / `inttRecO` of `Model/FftFlt`
at the ring operations, and a map that carries an operations record to the ring operations carries the model's network
to the ring network (naturality: this is how the instances come down to the theorems here).  Then: the depth-first
butterfly network evaluates the input at the roots attached to its leaves (`ntt_eq_eval`), the inverse network undoes it
up to the factor 2^d (`intt_ntt`) and the other way round (`ntt_intt`), and evaluation at a root of X^n + 1 is
multiplicative for the negacyclic product (`evalL_negacyc_of_pow`, which the other files use; `evalL_negacyc` is the same
with the hypothesis 0 < n).  Last the same facts in the form the instances use them (scaling by n⁻¹ folded in, the
convolution theorem as an equation between lists).
-/
namespace Falcon.NttG

variable {F : Type} [CommRing F]

/-- the network over a ring: `d` levels remain (input length 2^d), `k` is the heap index of the node (root 1, children
    2k and 2k+1), `T k` its twiddle -/
def nttRec (T : Nat → F) : Nat → Nat → List F → List F
  | 0,   _, a => a
  | d+1, k, a =>
      let lo := a.take (2^d); let hi := a.drop (2^d); let s := T k
      nttRec T d (2*k)   (List.zipWith (fun u v => u + v*s) lo hi) ++
      nttRec T d (2*k+1) (List.zipWith (fun u v => u - v*s) lo hi)

/-- the inverse network on the same tree, children first; `TI k` undoes the twiddle of node k, the factor 2^d stays -/
def inttRec (TI : Nat → F) : Nat → Nat → List F → List F
  | 0,   _, a => a
  | d+1, k, a =>
      let x := inttRec TI d (2*k)   (a.take (2^d))
      let y := inttRec TI d (2*k+1) (a.drop (2^d))
      List.zipWith (fun u v => u + v) x y ++ List.zipWith (fun u v => (u - v) * TI k) x y

/-- the value at ρ of the polynomial with these coefficients, constant term first -/
def evalL : List F → F → F
  | [],      _ => 0
  | c :: cs, ρ => c + ρ * evalL cs ρ

end Falcon.NttG

namespace Falcon.FftFlt

variable {α : Type} {F : Type} [CommRing F]

/-- `φ` carries the operations `o` to the ring operations -/
structure Ops.Hom (o : Ops α) (φ : α → F) : Prop where
  add : ∀ a b, φ (o.add a b) = φ a + φ b
  sub : ∀ a b, φ (o.sub a b) = φ a - φ b
  mul : ∀ a b, φ (o.mul a b) = φ a * φ b

section
variable {o : Ops α} {φ : α → F}

theorem map_nttRecO (h : o.Hom φ) (T : Nat → α) : ∀ d k (a : List α),
    (nttRecO o T d k a).map φ = NttG.nttRec (fun j => φ (T j)) d k (a.map φ)
  | 0, _, _ => rfl
  | d + 1, k, a => by
    simp only [nttRecO, NttG.nttRec, List.map_append, map_nttRecO h T d, List.map_zipWith, ← List.map_take,
      ← List.map_drop, List.zipWith_map, h.add, h.sub, h.mul]

theorem map_inttRecO (h : o.Hom φ) (TI : Nat → α) : ∀ d k (a : List α),
    (inttRecO o TI d k a).map φ = NttG.inttRec (fun j => φ (TI j)) d k (a.map φ)
  | 0, _, _ => rfl
  | d + 1, k, a => by
    simp only [inttRecO, NttG.inttRec, List.map_append, List.map_zipWith, ← List.map_take, ← List.map_drop,
      ← map_inttRecO h TI d, List.zipWith_map, h.add, h.sub, h.mul]

end

def ringOps : Ops F := ⟨(· + ·), (· - ·), (· * ·)⟩

theorem ringOps_hom : (ringOps (F := F)).Hom id := ⟨fun _ _ => rfl, fun _ _ => rfl, fun _ _ => rfl⟩

theorem nttRecO_eq (T : Nat → F) (d k : Nat) (a : List F) : nttRecO ringOps T d k a = NttG.nttRec T d k a := by
  simpa using map_nttRecO ringOps_hom T d k a

theorem inttRecO_eq (TI : Nat → F) (d k : Nat) (a : List F) : inttRecO ringOps TI d k a = NttG.inttRec TI d k a := by
  simpa using map_inttRecO ringOps_hom TI d k a

end Falcon.FftFlt

namespace Falcon.NttG

variable {F : Type} [CommRing F]

theorem nttRec_length (T : Nat → F) (d k : Nat) (a : List F) (h : a.length = 2^d) : (nttRec T d k a).length = 2^d :=
  FftFlt.nttRecO_eq T d k a ▸ FftFlt.nttRecO_length FftFlt.ringOps T d k a h

theorem inttRec_length (TI : Nat → F) (d k : Nat) (a : List F) (h : a.length = 2^d) : (inttRec TI d k a).length = 2^d :=
  FftFlt.inttRecO_eq TI d k a ▸ FftFlt.inttRecO_length FftFlt.ringOps TI d k a h

theorem evalL_append (xs ys : List F) (ρ : F) :
    evalL (xs ++ ys) ρ = evalL xs ρ + ρ ^ xs.length * evalL ys ρ := by
  induction xs with
  | nil => simp [evalL]
  | cons x xs ih => simp [evalL, ih, pow_succ]; ring

theorem evalL_zipWith {f : F → F → F} {a b : F} (hf : ∀ u v, f u v = a * u + b * v) (ρ : F) :
    ∀ (p r : List F), p.length = r.length → evalL (List.zipWith f p r) ρ = a * evalL p ρ + b * evalL r ρ
  | [], [], _ => by simp [evalL]
  | x :: xs, y :: ys, h => by
      simp only [List.zipWith_cons_cons, evalL, hf, evalL_zipWith hf ρ xs ys (by simpa using h)]; ring
  | [], _ :: _, h => by simp at h
  | _ :: _, [], h => by simp at h

/-- `P` holds at every node of the subtree of depth `d` hanging from node `k` (root 1, children 2k and 2k+1): level
    `e` of that subtree is the index range [k·2^e, (k+1)·2^e).  `TableOK` and the hypothesis of `intt_ntt` are of this form. -/
def Below (P : Nat → Prop) (d k : Nat) : Prop :=
  ∀ e, e < d → ∀ j, k * 2^e ≤ j → j < (k+1) * 2^e → P j

section below
variable {P : Nat → Prop} {d k : Nat}

theorem Below.here (h : Below P (d+1) k) : P k := h 0 (Nat.succ_pos d) k (by simp) (by simp)

/-- level e of the subtree of a child is inside level e+1 of the subtree of the parent -/
theorem Below.child {c : Nat} (h : Below P (d+1) k) (h1 : 2*k ≤ c) (h2 : c ≤ 2*k+1) : Below P d c := by
  intro e he j hj1 hj2
  have e1 : k * 2^(e+1) = 2*k * 2^e := by rw [pow_succ]; ring
  have e2 : (k+1) * 2^(e+1) = (2*k+1+1) * 2^e := by rw [pow_succ]; ring
  exact h (e+1) (by omega) j (e1 ▸ le_trans (Nat.mul_le_mul_right _ h1) hj1)
    (e2 ▸ lt_of_lt_of_le hj2 (Nat.mul_le_mul_right _ (by omega)))

theorem Below.left (h : Below P (d+1) k) : Below P d (2*k) := h.child (le_refl _) (Nat.le_succ _)
theorem Below.right (h : Below P (d+1) k) : Below P d (2*k+1) := h.child (Nat.le_succ _) (le_refl _)

theorem Below.mono {D : Nat} (h : Below P D k) (hd : d ≤ D) : Below P d k :=
  fun e he => h e (Nat.lt_of_lt_of_le he hd)

theorem Below.root {D : Nat} (h : ∀ j, 1 ≤ j → j < 2^D → P j) : Below P D 1 := by
  intro e he j h1 h2
  have hp : 2^(e+1) ≤ 2^D := Nat.pow_le_pow_right (by decide) he
  have h0 : 0 < 2^e := Nat.pow_pos (by decide)
  rw [pow_succ] at hp
  exact h j (by omega) (by omega)

/-- under the root, level e is the nodes 2^e + i, i < 2^e -/
theorem Below.root_level {D e i : Nat} (h : Below P D 1) (he : e < D) (hi : i < 2 ^ e) : P (2 ^ e + i) :=
  h e he _ (by rw [Nat.one_mul]; exact Nat.le_add_right _ _)
    (by rw [Nat.succ_mul, Nat.one_mul]; exact Nat.add_lt_add_left hi _)

end below

/-- node k, with d levels below it, works modulo X^(2^d) − `cst T k`: −1 at the root, then ±(the parent's twiddle) -/
def cst (T : Nat → F) (k : Nat) : F :=
  if k = 1 then -1 else if k % 2 = 0 then T (k / 2) else - T (k / 2)

/-- the points at which the 2^d leaves under node k evaluate the input, in leaf order -/
def roots (T : Nat → F) : Nat → Nat → List F
  | 0,   k => [cst T k]
  | d+1, k => roots T d (2*k) ++ roots T d (2*k+1)

/-- leaf i under node k is node k·2^d + i (level d of the subtree), and its point is that node's constant -/
theorem roots_eq_range (T : Nat → F) : ∀ d k, roots T d k = (List.range (2 ^ d)).map fun i => cst T (k * 2 ^ d + i)
  | 0, k => by simp [roots]
  | d + 1, k => by
    simp only [roots, roots_eq_range T d]
    rw [Nat.two_pow_succ, List.range_add, List.map_append, List.map_map]
    congr 1
    · apply List.map_congr_left; intro i _; congr 1; ring
    · apply List.map_congr_left; intro i _; simp only [Function.comp]; congr 1; ring

/-- every twiddle within d levels from node k squares to its node's constant (`Below`, written out) -/
def TableOK (T : Nat → F) (d k : Nat) : Prop :=
  ∀ e, e < d → ∀ j, k * 2^e ≤ j → j < (k+1) * 2^e → T j ^ 2 = cst T j

theorem cst_even (T : Nat → F) (k : Nat) : cst T (2*k) = T k := by
  unfold cst
  have h1 : 2 * k ≠ 1 := by omega
  simp [h1]

theorem cst_odd (T : Nat → F) (k : Nat) (hk : 1 ≤ k) : cst T (2*k+1) = - T k := by
  unfold cst
  have h1 : 2 * k + 1 ≠ 1 := by omega
  have h2 : ¬ (2 * k + 1) % 2 = 0 := by omega
  have h3 : (2 * k + 1) / 2 = k := by omega
  rw [if_neg h1, if_neg h2, h3]

/-- the form in which a table is checked (`TableCheck`) -/
theorem TableOK.of_children {T : Nat → F} {D : Nat} (h1 : T 1 ^ 2 = -1)
    (hc : ∀ k, 1 ≤ k → 2 * k < 2 ^ D → T (2*k) ^ 2 = T k ∧ T (2*k+1) ^ 2 = - T k) : TableOK T D 1 := by
  refine Below.root fun j hj1 hj => ?_
  obtain ⟨k, rfl | rfl⟩ := Nat.even_or_odd' j
  · rw [cst_even]; exact (hc k (by omega) hj).1
  · by_cases hk : k = 0
    · subst hk; simpa [cst] using h1
    · have hk1 : 1 ≤ k := Nat.pos_of_ne_zero hk
      rw [cst_odd T k hk1]; exact (hc k hk1 (Nat.lt_of_succ_lt hj)).2

theorem roots_pow (T : Nat → F) : ∀ d k, 1 ≤ k → TableOK T d k →
    ∀ ρ ∈ roots T d k, ρ ^ (2^d) = cst T k
  | 0, k, _, _, ρ, hρ => by simp [roots] at hρ; simp [hρ]
  | d+1, k, hk, hT, ρ, hρ => by
      simp only [roots, List.mem_append] at hρ
      have hTk : T k ^ 2 = cst T k := Below.here hT
      rcases hρ with hρ | hρ
      · have := roots_pow T d (2*k) (by omega) (Below.left hT) ρ hρ
        rw [cst_even T k] at this
        rw [pow_succ, pow_mul, this, hTk]
      · have := roots_pow T d (2*k+1) (by omega) (Below.right hT) ρ hρ
        rw [cst_odd T k hk] at this
        rw [pow_succ, pow_mul, this, ← hTk]; ring

theorem ntt_eq_eval (T : Nat → F) : ∀ d k (a : List F), 1 ≤ k → TableOK T d k → a.length = 2^d →
    nttRec T d k a = (roots T d k).map (evalL a)
  | 0, k, a, _, _, h => by
      match a, h with
      | [c], _ => simp [nttRec, roots, evalL]
  | d+1, k, a, hk, hT, h => by
      obtain ⟨hlo, hhi⟩ := FftFlt.halves_length h
      have hz := FftFlt.zipWith_halves_length h
      -- a(ρ) = lo(ρ) + ρ^(2^d)·hi(ρ), and ρ^(2^d) = ±T k on the two halves of the roots
      have hsplit : ∀ ρ, evalL a ρ = evalL (a.take (2^d)) ρ + ρ ^ 2^d * evalL (a.drop (2^d)) ρ := by
        intro ρ; conv_lhs => rw [← List.take_append_drop (2^d) a, evalL_append, hlo]
      have hl : 1 ≤ 2 * k := Nat.le_trans hk (Nat.le_mul_of_pos_left k Nat.two_pos)
      have hr : 1 ≤ 2 * k + 1 := Nat.le_add_left 1 _
      simp only [nttRec, roots, List.map_append]
      rw [ntt_eq_eval T d (2*k) _ hl (Below.left hT) (hz _),
          ntt_eq_eval T d (2*k+1) _ hr (Below.right hT) (hz _)]
      congr 1 <;> apply List.map_congr_left <;> intro ρ hρ
      · rw [evalL_zipWith (a := 1) (b := T k) (fun u v => by ring) ρ _ _ (by rw [hlo, hhi]), hsplit,
          roots_pow T d (2*k) hl (Below.left hT) ρ hρ, cst_even T k]; ring
      · rw [evalL_zipWith (a := 1) (b := -T k) (fun u v => by ring) ρ _ _ (by rw [hlo, hhi]), hsplit,
          roots_pow T d (2*k+1) hr (Below.right hT) ρ hρ, cst_odd T k hk]; ring

theorem intt_ntt (T TI : Nat → F) : ∀ d k (a : List F), a.length = 2^d →
    (∀ e, e < d → ∀ j, k * 2^e ≤ j → j < (k+1) * 2^e → T j * TI j = 1) →
    inttRec TI d k (nttRec T d k a) = a.map (((2:F)^d) * ·)
  | 0, _, a, _, _ => by simp [inttRec, nttRec]
  | d+1, k, a, h, hinv => by
      obtain ⟨hlo, hhi⟩ := FftFlt.halves_length h
      have hz := FftFlt.zipWith_halves_length h
      have hk : T k * TI k = 1 := Below.here hinv
      have hn1 := nttRec_length T d (2*k) _ (hz fun u v => u + v * T k)
      simp only [inttRec, nttRec]
      -- with s = T k, c = 2^d: c(u+vs) + c(u−vs) = 2c·u and (c(u+vs) − c(u−vs))·s⁻¹ = 2c·v
      rw [List.take_left' hn1, List.drop_left' hn1,
          intt_ntt T TI d (2*k) _ (hz _) (Below.left hinv), intt_ntt T TI d (2*k+1) _ (hz _) (Below.right hinv),
          List.zipWith_map, List.zipWith_map,
          List.zipWith_zipWith_eq_map_left (hlo.trans hhi.symm) (k := (2^(d+1) * ·)) (fun u v => by ring),
          List.zipWith_zipWith_eq_map_right (hlo.trans hhi.symm) (k := (2^(d+1) * ·))
            (fun u v => by linear_combination (2^(d+1) * v) * hk),
          ← List.map_append, List.take_append_drop]

theorem nttRec_smul (T : Nat → F) (c : F) : ∀ d k (a : List F),
    nttRec T d k (a.map (· * c)) = (nttRec T d k a).map (· * c)
  | 0, _, a => rfl
  | d+1, k, a => by
      have e : ∀ f : F → F → F, (∀ u v, f (u * c) (v * c) = f u v * c) →
          List.zipWith f ((a.map (· * c)).take (2^d)) ((a.map (· * c)).drop (2^d))
          = (List.zipWith f (a.take (2^d)) (a.drop (2^d))).map (· * c) := by
        intro f hf
        rw [← List.map_take, ← List.map_drop, List.zipWith_map, List.map_zipWith]
        congr 1; funext u v; exact hf u v
      simp only [nttRec]
      rw [e _ (fun u v => by ring), e _ (fun u v => by ring), nttRec_smul T c d (2*k), nttRec_smul T c d (2*k+1),
        List.map_append]

theorem ntt_intt (T TI : Nat → F) : ∀ d k (v : List F), v.length = 2^d → Below (fun j => T j * TI j = 1) d k →
    nttRec T d k (inttRec TI d k v) = v.map (((2:F)^d) * ·)
  | 0, _, v, _, _ => by simp [inttRec, nttRec]
  | d+1, k, v, h, hinv => by
      obtain ⟨hlo, hhi⟩ := FftFlt.halves_length h
      have hk : T k * TI k = 1 := Below.here hinv
      have hx := inttRec_length TI d (2*k) _ hlo
      have hy := inttRec_length TI d (2*k+1) _ hhi
      have hz := List.length_zipWith_eq (fun u v : F => u + v) hx hy
      simp only [inttRec, nttRec]
      -- with s = T k: (x+y) + (x−y)s⁻¹·s = 2x and (x+y) − (x−y)s⁻¹·s = 2y
      rw [List.take_left' hz, List.drop_left' hz,
          List.zipWith_zipWith_eq_map_left (hx.trans hy.symm) (k := (· * 2)) (fun x y => by linear_combination (x - y) * hk),
          List.zipWith_zipWith_eq_map_right (hx.trans hy.symm) (k := (· * 2)) (fun x y => by linear_combination (y - x) * hk),
          nttRec_smul, nttRec_smul, ntt_intt T TI d (2*k) _ hlo hinv.left, ntt_intt T TI d (2*k+1) _ hhi hinv.right,
          List.map_map, List.map_map, ← List.map_append, List.take_append_drop]
      exact List.map_congr_left fun x _ => by simp only [Function.comp, pow_succ]; ring

def addL : List F → List F → List F := List.zipWith (· + ·)
def smulL (c : F) : List F → List F := List.map (c * ·)

/-- multiplication by X in R[X]/(X^n+1): (p_0,…,p_{n-1}) ↦ (-p_{n-1}, p_0, …, p_{n-2}) -/
def mulX (p : List F) : List F :=
  match p.getLast? with
  | none => []
  | some l => (-l) :: p.dropLast

/-- a ⋆ b = Σ_i a_i · X^i · b  (Horner form), all intermediate values reduced mod X^n+1 -/
def negacyc (n : Nat) : List F → List F → List F
  | [],      _ => List.replicate n 0
  | c :: cs, b => addL (smulL c b) (mulX (negacyc n cs b))

theorem evalL_addL (p r : List F) (h : p.length = r.length) (ρ : F) : evalL (addL p r) ρ = evalL p ρ + evalL r ρ := by
  rw [addL, evalL_zipWith (a := 1) (b := 1) (fun u v => by ring) ρ p r h]; ring

theorem evalL_sub (p r : List F) (h : p.length = r.length) (ρ : F) :
    evalL (List.zipWith (· - ·) p r) ρ = evalL p ρ - evalL r ρ := by
  rw [evalL_zipWith (a := 1) (b := -1) (fun u v => by ring) ρ p r h]; ring

theorem evalL_smulL (c : F) : ∀ (p : List F) ρ, evalL (smulL c p) ρ = c * evalL p ρ
  | [], ρ => by simp [smulL, evalL]
  | x :: xs, ρ => by
      rw [smulL, List.map_cons, evalL, evalL, ← smulL, evalL_smulL c xs ρ]; ring

theorem evalL_replicate_zero (n : Nat) (ρ : F) : evalL (List.replicate n (0:F)) ρ = 0 := by
  induction n with
  | zero => simp [evalL]
  | succ n ih => simp [List.replicate_succ, evalL, ih]

theorem evalL_mulX (n : Nat) (ρ : F) (hρ : ρ ^ n = -1) (p : List F) (hn : p.length = n) :
    evalL (mulX p) ρ = ρ * evalL p ρ := by
  rcases List.eq_nil_or_concat p with h | ⟨q, l, h⟩
  · subst h; simp [mulX, evalL]
  · rw [List.concat_eq_append] at h
    subst h
    have hl : q.length + 1 = n := by simpa using hn
    have hm : mulX (q ++ [l]) = (-l) :: q := by simp [mulX]
    rw [hm, evalL_append]
    simp only [evalL, mul_zero, add_zero]
    have : ρ ^ q.length * ρ = -1 := by rw [← pow_succ, hl, hρ]
    linear_combination (-l) * this

theorem mulX_length (p : List F) : (mulX p).length = p.length := by
  rcases List.eq_nil_or_concat p with h | ⟨q, l, h⟩
  · subst h; rfl
  · subst h; simp [mulX]

theorem negacyc_length (n : Nat) : ∀ (a b : List F), b.length = n → (negacyc n a b).length = n
  | [], _, _ => by simp [negacyc]
  | c :: cs, b, hb => by
      simp [negacyc, addL, smulL, List.length_zipWith, hb, mulX_length, negacyc_length n cs b hb]

theorem evalL_negacyc_of_pow (n : Nat) (ρ : F) (hρ : ρ ^ n = -1) :
    ∀ (a b : List F), b.length = n → evalL (negacyc n a b) ρ = evalL a ρ * evalL b ρ
  | [], b, _ => by simp [negacyc, evalL, evalL_replicate_zero]
  | c :: cs, b, hb => by
      have hl := negacyc_length n cs b hb
      rw [negacyc, evalL_addL _ _ (by simp [smulL, hb, mulX_length, hl]), evalL_smulL, evalL_mulX n ρ hρ _ hl,
          evalL_negacyc_of_pow n ρ hρ cs b hb, evalL]
      ring

theorem evalL_negacyc (n : Nat) (hn : 0 < n) (ρ : F) (hρ : ρ ^ n = -1) :
    ∀ (a b : List F), b.length = n → evalL (negacyc n a b) ρ = evalL a ρ * evalL b ρ :=
  evalL_negacyc_of_pow n ρ hρ

theorem map_mul_cancel {c ci : F} (h : c * ci = 1) (l : List F) : (l.map (c * ·)).map (· * ci) = l := by
  rw [List.map_map]
  exact List.map_id'' (fun x => by simp only [Function.comp]; linear_combination x * h) l

section
variable {T TI : Nat → F} {d : Nat} {ninv : F} (hn : (2 : F) ^ d * ninv = 1) (hinv : Below (fun j => T j * TI j = 1) d 1)
include hn hinv

theorem intt_ntt_scaled {a : List F} (ha : a.length = 2 ^ d) :
    (inttRec TI d 1 (nttRec T d 1 a)).map (· * ninv) = a := by
  rw [intt_ntt T TI d 1 a ha hinv, map_mul_cancel hn]

theorem ntt_intt_scaled {v : List F} (hv : v.length = 2 ^ d) :
    nttRec T d 1 ((inttRec TI d 1 v).map (· * ninv)) = v := by
  rw [nttRec_smul, ntt_intt T TI d 1 v hv hinv, map_mul_cancel hn]

end

section
variable {T : Nat → F} {d : Nat} (hT : TableOK T d 1)
include hT

theorem root_pow {ρ : F} (hρ : ρ ∈ roots T d 1) : ρ ^ 2 ^ d = -1 := by
  simpa [cst] using roots_pow T d 1 (le_refl 1) hT ρ hρ

theorem ntt_eq_eval_root {a : List F} (ha : a.length = 2 ^ d) : nttRec T d 1 a = (roots T d 1).map (evalL a) :=
  ntt_eq_eval T d 1 a (le_refl 1) hT ha

theorem ntt_eq_zipWith {g : F → F → F} {a b c : List F} (ha : a.length = 2 ^ d) (hb : b.length = 2 ^ d)
    (hc : c.length = 2 ^ d) (h : ∀ ρ ∈ roots T d 1, evalL c ρ = g (evalL a ρ) (evalL b ρ)) :
    nttRec T d 1 c = List.zipWith g (nttRec T d 1 a) (nttRec T d 1 b) := by
  rw [ntt_eq_eval_root hT ha, ntt_eq_eval_root hT hb, ntt_eq_eval_root hT hc, List.zipWith_map, List.zipWith_self]
  exact List.map_congr_left h

theorem ntt_negacyc {a b : List F} (ha : a.length = 2 ^ d) (hb : b.length = 2 ^ d) :
    nttRec T d 1 (negacyc (2 ^ d) a b) = List.zipWith (· * ·) (nttRec T d 1 a) (nttRec T d 1 b) :=
  ntt_eq_zipWith hT ha hb (negacyc_length (2 ^ d) a b hb) fun ρ hρ =>
    evalL_negacyc_of_pow (2 ^ d) ρ (root_pow hT hρ) a b hb

theorem ntt_sub {a b : List F} (ha : a.length = 2 ^ d) (hb : b.length = 2 ^ d) :
    nttRec T d 1 (List.zipWith (· - ·) a b) = List.zipWith (· - ·) (nttRec T d 1 a) (nttRec T d 1 b) :=
  ntt_eq_zipWith hT ha hb (List.length_zipWith_eq _ ha hb) fun ρ _ => evalL_sub a b (ha.trans hb.symm) ρ

end

end Falcon.NttG

namespace Falcon.FftFlt

variable {α : Type} {F : Type} [CommRing F] {o : Ops α} {φ : α → F}

theorem map_mulXO (h : o.Hom φ) {z : α} (hz : φ z = 0) (p : List α) : (mulXO o z p).map φ = NttG.mulX (p.map φ) := by
  unfold mulXO NttG.mulX
  rw [List.getLast?_map]
  cases p.getLast? <;> simp [h.sub, hz]

theorem map_negacycO (h : o.Hom φ) {z : α} (hz : φ z = 0) (n : Nat) : ∀ (a b : List α),
    (negacycO o z n a b).map φ = NttG.negacyc n (a.map φ) (b.map φ)
  | [], _ => by simp [negacycO, NttG.negacyc, hz]
  | x :: xs, b => by
    simp only [negacycO, NttG.negacyc, NttG.addL, NttG.smulL, List.map_cons]
    rw [← map_negacycO h hz n xs b, ← map_mulXO h hz]
    simp only [List.map_zipWith, List.zipWith_map_left, List.zipWith_map_right, h.add, h.mul]

end Falcon.FftFlt

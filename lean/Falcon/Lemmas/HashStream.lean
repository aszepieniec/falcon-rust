import Falcon.Model.Hash
import Falcon.Lemmas.ZqBasic

/-!
  The function `hash_to_point` as a whole (not only its loop on an abstract chunk stream): the result does not depend
  on how many SHAKE blocks were squeezed — it is the first n accepted words of *the* output stream of the string.
  The loop in closed form is `loop_eq`: the words below 5q, reduced modulo q, the first n of them.  Squeezing more
  blocks extends the output (`shake_prefix`), and once the loop has its n coefficients more stream changes nothing
  (`loop_append`); hence `hashToPoint_stable`.  Core Lean only.
-/
namespace Falcon.HashStream
open Falcon Falcon.Hash Falcon.Keccak

theorem shakeGo_prefix : ∀ (a b : Nat) (s : Array UInt64), ∃ τ, shake256.go (a + b) s = shake256.go a s ++ τ
  | 0, b, s => ⟨shake256.go b s, by rw [Nat.zero_add]; rfl⟩
  | a + 1, b, s => by
    obtain ⟨τ, h⟩ := shakeGo_prefix a b (keccakF s)
    exact ⟨τ, by rw [Nat.add_right_comm]; simp only [shake256.go, h, List.append_assoc]⟩

theorem squeezeBlock_length (s : Array UInt64) : (squeezeBlock s).length = 136 := by
  simp [squeezeBlock, rate]

theorem shakeGo_length : ∀ (a : Nat) (s : Array UInt64), (shake256.go a s).length = 136 * a
  | 0, _ => rfl
  | a + 1, s => by
    rw [shake256.go, List.length_append, squeezeBlock_length, shakeGo_length a, Nat.mul_succ, Nat.add_comm]

theorem shake_prefix (msg : List Nat) (a b : Nat) :
    ∃ τ, shake256 msg (a + b) = shake256 msg a ++ τ ∧ (shake256 msg a).length = 136 * a := by
  unfold shake256
  obtain ⟨τ, h⟩ := shakeGo_prefix a b _
  exact ⟨τ, h, shakeGo_length a _⟩

theorem chunks16_append : ∀ (k : Nat) (x y : List Nat), x.length = 2 * k → chunks16 (x ++ y) = chunks16 x ++ chunks16 y
  | 0, x, y, h => by
    obtain rfl : x = [] := List.eq_nil_of_length_eq_zero h
    rfl
  | k + 1, a :: b :: rest, y, h => by
    have hr : rest.length = 2 * k := by simp only [List.length_cons] at h; omega
    simp only [List.cons_append, chunks16, chunks16_append k rest y hr]

theorem accepts_iff (t : Nat) : accepts t = true ↔ t < 61445 := by
  simp only [accepts, Gen.hashCmpLe, Gen.hashK, Zq.q, Gen.q]
  exact decide_eq_true_iff

theorem loop_eq : ∀ (σ : List Nat) (n : Nat), loop σ n = ((σ.filter (· < 61445)).map (· % 12289)).take n
  | _, 0 => by simp [loop]
  | [], _ + 1 => by simp [loop]
  | t :: rest, n + 1 => by
    have hnew : Zq.new ((t % Zq.q : Nat) : Int) = t % 12289 := Zq.new_natCast (Nat.mod_lt t (by decide))
    -- the loop keeps or drops the head word exactly as the filter does
    by_cases h : t < 61445
    · have hf : (t :: rest).filter (· < 61445) = t :: rest.filter (· < 61445) :=
        List.filter_cons_of_pos (decide_eq_true h)
      rw [loop, if_pos ((accepts_iff t).mpr h), hnew, loop_eq rest n, hf, List.map_cons, List.take_succ_cons]
    · have hf : (t :: rest).filter (· < 61445) = rest.filter (· < 61445) :=
        List.filter_cons_of_neg (by simpa using h)
      rw [loop, if_neg (mt (accepts_iff t).mp h), loop_eq rest (n + 1), hf]

theorem loop_append (σ τ : List Nat) (n : Nat) (h : (loop σ n).length = n) : loop (σ ++ τ) n = loop σ n := by
  rw [loop_eq, List.length_take] at h
  rw [loop_eq, loop_eq, List.filter_append, List.map_append, List.take_append_of_le_length (by omega)]

/-- the stream of 16-bit words after squeezing `k` blocks -/
def words (msg : List Nat) (k : Nat) : List Nat := chunks16 (shake256 msg k)

theorem words_prefix (msg : List Nat) {a m : Nat} (ham : a ≤ m) : ∃ τ, words msg m = words msg a ++ τ := by
  obtain ⟨τ, h, hl⟩ := shake_prefix msg a (m - a)
  rw [Nat.add_sub_cancel' ham] at h
  exact ⟨chunks16 τ, by rw [words, h, chunks16_append (68 * a) _ _ (by omega)]; rfl⟩

theorem hashGo_is_loop (msg : List Nat) (n : Nat) : ∀ (fuel nb : Nat),
    ∃ k, hashToPoint.go msg n fuel nb = loop (words msg k) n
  | 0, nb => ⟨nb, rfl⟩
  | fuel + 1, nb => by
    simp only [hashToPoint.go]
    split
    · exact ⟨nb, rfl⟩
    · exact hashGo_is_loop msg n fuel (2 * nb)

/-- **`hash_to_point` is a function of the string's SHAKE-256 stream alone**: whenever it returns n coefficients,
    they are what the rejection loop produces on every sufficiently long prefix of the stream — the number of blocks
    squeezed, and the way the squeezing is batched, do not matter -/
theorem hashToPoint_stable (msg : List Nat) (n : Nat) (h : (hashToPoint msg n).length = n) :
    ∃ k, ∀ m, k ≤ m → loop (words msg m) n = hashToPoint msg n := by
  unfold hashToPoint at h ⊢
  obtain ⟨k, hk⟩ := hashGo_is_loop msg n 6 (n / 60 + 2)
  rw [hk] at h ⊢
  refine ⟨k, fun m hm => ?_⟩
  obtain ⟨τ, hτ⟩ := words_prefix msg hm
  rw [hτ, loop_append _ _ _ h]

end Falcon.HashStream

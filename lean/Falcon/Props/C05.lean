import Falcon.Lemmas.Keys
import Falcon.Lemmas.SignRefine
import Falcon.Lemmas.KeygenSound
import Falcon.Lemmas.PublicKey
import Falcon.Props.C04

/-!
# C05 — sizes and exact round trip (format side) and the key-generation guards

* every field width × every in-range value round-trips through the secret-key field codec (widths 5, 6, 8; the
  reason holds for every width: `KeyCodec.signedField_eq_some_iff`), and the reserved value −2^(w−1) is the only one
  that does not;
* the guards of `ntru_gen` (constants re-extracted from math.rs) force every generated f, g, F, G into
  exactly that range for both variants;
* a signature re-decodes to itself; the sizes are the property's constants.
The whole-object round trips (`from_bytes(to_bytes(x)) = x` for keys, incl. the recomputed G) are proved on the
model (`public_key_roundtrip`, `secret_key_roundtrip`, `recomputed_G_is_G`, `derived_public_key_roundtrips` and, for
generated keys, `model_generated_keys_are_representable` and the last two theorems) and executed on every generated key by
the real code and by the model (`sk_codec` op).
-/
namespace Falcon.Props.C05
open Falcon Falcon.KeyCodec

/-- sizes (property constants) from the extracted format constants -/
theorem sizes :
    1 + (512 * (Gen.skWidthFG512 + Gen.skWidthFG512 + Gen.skWidthCapF)) / 8 = 1281 ∧
    1 + (1024 * (Gen.skWidthFG1024 + Gen.skWidthFG1024 + Gen.skWidthCapF)) / 8 = 2305 ∧
    1 + 512 * Gen.pkWidth / 8 = 897 ∧ 1 + 1024 * Gen.pkWidth / 8 = 1793 ∧
    Gen.sigBytelen512 = 666 ∧ Gen.sigBytelen1024 = 1280 := by decide

/-- **field round trip, complete**: for each width w ∈ {5, 6, 8} and every v with |v| ≤ 2^(w−1) − 1,
    decoding the w-bit encoding of v gives back the residue of v -/
theorem field_roundtrip_all :
    allIn (-15) 31 (fun v => deserializeField (intBits 5 v) == some (Zq.new v)) = true ∧
    allIn (-31) 63 (fun v => deserializeField (intBits 6 v) == some (Zq.new v)) = true ∧
    allIn (-127) 255 (fun v => deserializeField (intBits 8 v) == some (Zq.new v)) = true :=
  KeyCodec.field_roundtrip_all

/-- … and the value just outside (−2^(w−1), the reserved pattern) is rejected by the decoder -/
theorem field_reserved_rejected :
    deserializeField (intBits 5 (-16)) = none ∧ deserializeField (intBits 6 (-32)) = none ∧
    deserializeField (intBits 8 (-128)) = none := by decide

/-- the range the format can carry, per variant -/
def inRange (n : Nat) (f g cF cG : List Int) : Prop :=
  (∀ c ∈ f ++ g, c.natAbs ≤ 2 ^ ((if n = 1024 then 5 else 6) - 1) - 1) ∧ (∀ c ∈ cF ++ cG, c.natAbs ≤ 127)

/-- the guards of `ntru_gen` as extracted: `|c| >= 2^(bits−1)` rejects f, g; `|c| > 127` rejects F, G;
    the widths equal the secret-key field widths of the format -/
theorem keygen_guards_match_format :
    Gen.fgGuardGe = true ∧ Gen.capGuardGe = false ∧ Gen.capGuardLimit = 127 ∧
    Gen.maxFgBits.lookup 512 = some Gen.skWidthFG512 ∧ Gen.maxFgBits.lookup 1024 = some Gen.skWidthFG1024 ∧
    2 ^ (Gen.skWidthCapF - 1) - 1 = Gen.capGuardLimit := by decide

/-- what passing the guards means (the negation of the reject conditions) implies `inRange` -/
theorem accepted_is_in_range (n : Nat) (hn : n = 512 ∨ n = 1024) (f g cF cG : List Int)
    (hfg : ¬ ∃ c ∈ f ++ g, c.natAbs ≥ 2 ^ ((if n = 1024 then 5 else 6) - 1))
    (hFG : ¬ ∃ c ∈ cF ++ cG, c.natAbs > 127) : inRange n f g cF cG := by
  constructor
  · intro c hc
    have : ¬ c.natAbs ≥ 2 ^ ((if n = 1024 then 5 else 6) - 1) := fun h => hfg ⟨c, hc, h⟩
    omega
  · intro c hc
    have : ¬ c.natAbs > 127 := fun h => hFG ⟨c, hc, h⟩
    omega

/-- **public key round trip**: every canonical coefficient vector of length 512 / 1024 encodes to 897 / 1793
    bytes and decodes back to itself -/
theorem public_key_roundtrip (N : Nat) (hN : N = 512 ∨ N = 1024) (h : List Nat) (hl : h.length = N)
    (hq : ∀ x ∈ h, x < 12289) :
    pkFromBytes N (pkToBytes h) = .ok (.ok h) ∧ (pkToBytes h).length = 1 + N * Gen.pkWidth / 8 := by
  have V := Variant.of_N hN
  have hE := pkToBytes_encodes V h hl hq
  exact ⟨pk_roundtrip N hN h hl hq,
    by rw [hE.length V, Gen.pkWidth, V.bytes 14, Nat.mul_div_cancel_left _ (by decide : 0 < 8)]⟩

/-- **secret key round trip** (the stored polynomials f, g, F): every triple within the ranges the key-generation
    guards enforce (`accepted_is_in_range`) serialises without overflow, in both build modes, to 1281 / 2305
    bytes, and decodes back to the residues of the same coefficients -/
theorem secret_key_roundtrip (chk : Bool) (N : Nat) (hN : N = 512 ∨ N = 1024) (f g cF cG : List Int)
    (lf : f.length = N) (lg : g.length = N) (lF : cF.length = N) (hr : inRange N f g cF cG) :
    ∃ b, skToBytes chk f g cF = .ok b ∧ b.length = (if N = 512 then 1281 else 2305) ∧
      skFromBytes N b = .ok (.ok (f.map Zq.new, g.map Zq.new, cF.map Zq.new)) := by
  obtain ⟨hfg, hFG⟩ := hr
  have V := Variant.of_N hN
  obtain ⟨b, h1, hE⟩ := skToBytes_encodes chk V f g cF lf lg lF (fun v hv => .of_natAbs (hfg v (by simp [hv])))
    (fun v hv => .of_natAbs (hfg v (by simp [hv]))) (fun v hv => .of_natAbs (hFG v (by simp [hv])))
  refine ⟨b, h1, ?_, (skFromBytes_ok_iff N b _ _ _).mpr ⟨f, g, cF, hE, rfl, rfl, rfl⟩⟩
  rw [hE.length V]
  rcases hN with rfl | rfl <;> rfl

/-- **the decoded secret key is the original one**: the fourth polynomial is not stored; `from_bytes` recomputes it
    as intt(ntt g ⊙ (ntt f)⁻¹ ⊙ ntt F) with the batch inversion.  For every key with f⋆G − g⋆F = q over ℤ, f
    invertible in the NTT domain and |G_i| ≤ 127 (what `ntru_gen` guarantees), the recomputation does not panic in
    either build mode and its centred representatives are exactly G -/
theorem recomputed_G_is_G (chk : Bool) (d : Nat) (hd : d ≤ 10) (f g cF cG : List Int)
    (lf : f.length = 2 ^ d) (lg : g.length = 2 ^ d) (lF : cF.length = 2 ^ d) (lG : cG.length = 2 ^ d)
    (hntru : RingZ.ntruLhs (2 ^ d) f g cF cG = (12289 : Int) :: List.replicate (2 ^ d - 1) 0)
    (hinv : ∀ x ∈ Ntt.ntt d (Ntt.toZq f), x ≠ 0) (hG : ∀ x ∈ cG, x.natAbs ≤ 127) :
    ∃ finv cg', Zq.batchInv chk (Ntt.ntt d (Ntt.toZq f)) = .ok finv ∧
      Ntt.intt d (Ntt.hadamard (Ntt.hadamard (Ntt.ntt d (Ntt.toZq g)) finv) (Ntt.ntt d (Ntt.toZq cF))) = .ok cg' ∧
      cg'.map (fun (a : Nat) => if a > 6144 then (a : Int) - 12289 else (a : Int)) = cG := by
  obtain ⟨finv, h1, h2⟩ := Ntt.recomputed_G chk d hd f g cF cG lf lg lF lG hntru hinv
  refine ⟨finv, _, h1, h2, ?_⟩
  rw [Ntt.toZq, List.map_map]
  exact (List.map_congr_left fun x hx => Zq.centred_new (by have := hG x hx; omega)).trans (List.map_id cG)

/-- a signature survives serialisation: decoding what `to_bytes` wrote gives back salt and body, for both variants,
    and the string has 41 + L = 666 / 1280 bytes -/
theorem signature_roundtrip (N L : Nat) (hNL : (N = 512 ∧ L = 625) ∨ (N = 1024 ∧ L = 1239)) (salt s : List Nat)
    (hs : salt.length = 40) (hb : s.length = L) :
    sigFromBytes N (sigToBytes salt s) = .ok (.ok (salt, s)) ∧ (sigToBytes salt s).length = 41 + L :=
  ⟨KeyCodec.sig_parse N L salt s hs hb hNL, by rw [sigToBytes_length, hs, hb]⟩

/-- … in particular for Falcon-512 -/
theorem signature_roundtrip_512 (salt s : List Nat) (hs : salt.length = 40) (hb : s.length = 625) :
    sigFromBytes 512 (sigToBytes salt s) = .ok (.ok (salt, s)) :=
  (signature_roundtrip 512 625 (.inl ⟨rfl, rfl⟩) salt s hs hb).1

/-- **every signature the complete model of `sign` returns** (`SignFlt.sign`, byte-identical with the real `sign`) has the
    variant's fixed size — 666 / 1280 bytes — and `Signature::from_bytes` decodes it into the salt and compressed body it
    was built from, for every key, message and generator stream and any number of retries -/
theorem model_signatures_have_fixed_size_and_decode (chk : Bool) (N L : Nat)
    (hNL : (N = 512 ∧ L = 625) ∨ (N = 1024 ∧ L = 1239)) (b0 : List (List Int)) (msg stream sig : List Nat)
    (a b : Nat) (zs : List Int) (h : SignFlt.sign chk N b0 msg stream = .ok (.ok (sig, a, b, zs))) :
    sig.length = 41 + L ∧ ∃ salt body, sigFromBytes N sig = .ok (.ok (salt, body)) ∧ sig = sigToBytes salt body := by
  obtain ⟨body, h1, h2, h3⟩ := SignFlt.sign_wellformed chk N L hNL b0 msg stream sig a b zs h
  exact ⟨h2, _, body, h3, h1⟩

/-- **every key the executable model of `ntru_gen` returns** (`Keygen.ntruGen`: the model whose keys equal the real
    ones on every compared seed) **is representable in the fixed-width secret-key format and survives the round
    trip**: it went through the range guards, so f, g, F serialise without overflow to 1281 / 2305 bytes and decode to
    the same residues — for every seed for which the model returns a key (lengths as the model produces them) -/
theorem model_generated_keys_are_representable (chk : Bool) (N : Nat) (hN : N = 512 ∨ N = 1024) (seed : List Nat)
    (f g cF cG : List Int) (k : Nat) (h : Keygen.ntruGen chk N seed = .ok (.key f g cF cG k))
    (lf : f.length = N) (lg : g.length = N) (lF : cF.length = N) :
    ∃ b, skToBytes chk f g cF = .ok b ∧ b.length = (if N = 512 then 1281 else 2305) ∧
      skFromBytes N b = .ok (.ok (f.map Zq.new, g.map Zq.new, cF.map Zq.new)) := by
  obtain ⟨hfg, _, _, _, hFG⟩ := Keygen.ntruGen_accepted chk N seed f g cF cG k h
  refine secret_key_roundtrip chk N hN f g cF cG lf lg lF ⟨fun c hc => ?_, hFG⟩
  -- the guard let through |c| < 2^(w−1)
  have := hfg c hc
  rw [Keygen.fgLimit_variant hN] at this
  omega

/-- **every derived public key survives serialisation**: for both variants, every f whose transform has no zero slot
    and every g (canonical residues), the public key the code derives — in either build mode — is a canonical vector of
    length N, so it serialises to exactly 897 / 1793 bytes and `from_bytes` returns it unchanged -/
theorem derived_public_key_roundtrips (chk : Bool) (N d : Nat) (hN : (N = 512 ∧ d = 9) ∨ (N = 1024 ∧ d = 10))
    (f g : List Nat) (lf : f.length = N) (lg : g.length = N) (cf : ∀ x ∈ f, x < 12289) (cg : ∀ x ∈ g, x < 12289)
    (hinv : ∀ x ∈ Ntt.ntt d f, x ≠ 0) :
    ∃ finv h, Zq.batchInv chk (Ntt.ntt d f) = .ok finv ∧ Ntt.intt d (Ntt.hadamard (Ntt.ntt d g) finv) = .ok h ∧
      pkFromBytes N (pkToBytes h) = .ok (.ok h) ∧ (pkToBytes h).length = 1 + N * Gen.pkWidth / 8 := by
  obtain ⟨rfl, hd, hN'⟩ := variant_pow hN
  obtain ⟨finv, h, h1, h2, lh, ch, _, _⟩ := Ntt.public_key_is_g_over_f chk d hd f g lf lg cf cg hinv
  obtain ⟨r1, r2⟩ := public_key_roundtrip (2 ^ d) hN' h lh ch
  exact ⟨finv, h, h1, h2, r1, r2⟩

/-- **a generated secret key survives serialisation completely — for every seed**: for both variants, a key returned by
    the modelled key generation serialises (both build modes, no overflow) to exactly 1281 / 2305 bytes; `from_bytes`
    accepts them and returns the residues of the same f, g, F; and the fourth polynomial, which is not stored but
    recomputed as intt(ntt g ⊙ (ntt f)⁻¹ ⊙ ntt F), comes out as exactly G.  So the decoded key is the generated key (and
    therefore signs what the original public key verifies).  Hypothesis beyond the run: `window=ok` for the key (C04). -/
theorem generated_secret_key_survives_serialisation (chk : Bool) (N j : Nat) (hN : (N = 512 ∧ j = 8) ∨ (N = 1024 ∧ j = 9))
    (seed : List Nat) (f g cF cG : List Int) (k : Nat)
    (h : Keygen.ntruGen chk N seed = .ok (.key f g cF cG k)) (hw : Keygen.entryWindow f g = true) :
    ∃ b finv cg', skToBytes chk f g cF = .ok b ∧ b.length = (if N = 512 then 1281 else 2305) ∧
      skFromBytes N b = .ok (.ok (f.map Zq.new, g.map Zq.new, cF.map Zq.new)) ∧
      Zq.batchInv chk (Ntt.ntt (j + 1) (Ntt.toZq f)) = .ok finv ∧
      Ntt.intt (j + 1) (Ntt.hadamard (Ntt.hadamard (Ntt.ntt (j + 1) (Ntt.toZq g)) finv) (Ntt.ntt (j + 1) (Ntt.toZq cF))) = .ok cg' ∧
      cg'.map (fun (a : Nat) => if a > 6144 then (a : Int) - 12289 else (a : Int)) = cG := by
  obtain ⟨lf, lg, lF, lG, hntru, hinv, hcap⟩ := C04.model_generated_keys_are_ntru_trapdoors chk N j hN seed f g cF cG k h hw
  obtain ⟨rfl, hj, hN'⟩ := variant_pow (variant_succ hN)
  obtain ⟨b, h1, h2, h3⟩ := model_generated_keys_are_representable chk _ hN' seed f g cF cG k h lf lg lF
  obtain ⟨finv, cg', h4, h5, h6⟩ := recomputed_G_is_G chk (j + 1) hj f g cF cG lf lg lF lG hntru hinv
    (fun x hx => hcap x (by simp [hx]))
  exact ⟨b, finv, cg', h1, h2, h3, h4, h5, h6⟩

/-- **the public key of a generated key survives serialisation — for every seed**: for both variants, the public key
    derived from a key returned by the modelled key generation serialises to exactly 897 / 1793 bytes and `from_bytes`
    returns it unchanged (hypothesis beyond the run: `window=ok` for the key, C04) -/
theorem generated_public_key_survives_serialisation (chk : Bool) (N j : Nat) (hN : (N = 512 ∧ j = 8) ∨ (N = 1024 ∧ j = 9))
    (seed : List Nat) (f g cF cG : List Int) (k : Nat)
    (h : Keygen.ntruGen chk N seed = .ok (.key f g cF cG k)) (hw : Keygen.entryWindow f g = true) :
    ∃ finv pk, Zq.batchInv chk (Ntt.ntt (j + 1) (Ntt.toZq f)) = .ok finv ∧
      Ntt.intt (j + 1) (Ntt.hadamard (Ntt.ntt (j + 1) (Ntt.toZq g)) finv) = .ok pk ∧
      pkFromBytes N (pkToBytes pk) = .ok (.ok pk) ∧ (pkToBytes pk).length = 1 + N * Gen.pkWidth / 8 := by
  obtain ⟨lf, lg, _, _, _, hinv, _⟩ := C04.model_generated_keys_are_ntru_trapdoors chk N j hN seed f g cF cG k h hw
  exact derived_public_key_roundtrips chk N (j + 1) (variant_succ hN) (Ntt.toZq f) (Ntt.toZq g)
    (Ntt.toZq_length lf) (Ntt.toZq_length lg) (Ntt.toZq_lt f) (Ntt.toZq_lt g) hinv

/-! ### non-vacuity -/
example : deserializeField (intBits 6 (-31)) = some 12258 ∧ deserializeField (intBits 8 127) = some 127 := by decide

end Falcon.Props.C05

import Falcon.Model.ChaCha

/-!
  The generator stream of key generation is ONE stream: the model of `ntru_gen` re-creates, for every candidate, a
  window of ChaCha12 blocks starting at the block that holds the first unread byte.  These lemmas show that every such
  window is a window into the single keystream of the seed (`byteStream seed ·`), so the candidates are drawn
  consecutively from `StdRng::from_seed(seed)` — candidate k starts exactly at the byte where candidate k−1 stopped —
  and nothing but the seed enters.  Core Lean only.
-/
namespace Falcon.ChaCha

theorem byteStreamFrom_zero (seed : List Nat) (k : Nat) : byteStreamFrom seed 0 k = byteStream seed k := by
  simp [byteStreamFrom, byteStream]

theorem byteStreamFrom_add (seed : List Nat) (s a b : Nat) :
    byteStreamFrom seed s (a + b) = byteStreamFrom seed s a ++ byteStreamFrom seed (s + a) b := by
  -- `range (a + b)` is `range a` followed by `a + c` for c in `range b`, and block s + (a + c) is block (s + a) + c
  simp only [byteStreamFrom, List.range_add, List.flatMap_append, List.flatMap_map, Nat.add_assoc]

theorem block_length (seed : List Nat) (c : Nat) : (block seed c).length = 16 := by
  simp only [block, List.length_map, List.length_range]

theorem byteStreamFrom_length (seed : List Nat) (s k : Nat) : (byteStreamFrom seed s k).length = 16 * k := by
  simp [byteStreamFrom, List.length_flatMap, block_length, List.map_const', Nat.mul_comm]

theorem byteStream_length (seed : List Nat) (k : Nat) : (byteStream seed k).length = 16 * k := by
  rw [← byteStreamFrom_zero, byteStreamFrom_length]

theorem byteStream_add (seed : List Nat) (a b : Nat) :
    byteStream seed (a + b) = byteStream seed a ++ byteStreamFrom seed a b := by
  simpa [byteStreamFrom_zero] using byteStreamFrom_add seed 0 a b

theorem byteStreamFrom_eq_drop (seed : List Nat) (start nb : Nat) :
    byteStreamFrom seed start nb = (byteStream seed (start + nb)).drop (16 * start) := by
  rw [byteStream_add, List.drop_left' (byteStream_length seed start)]

/-- the window the model of `ntru_gen` opens at byte offset `off` (block `off / 16`, then `off % 16` bytes skipped) is
    the keystream of the seed from byte `off` on -/
theorem window_at_offset (seed : List Nat) (off nb : Nat) :
    (byteStreamFrom seed (off / 16) nb).drop (off % 16) = (byteStream seed (off / 16 + nb)).drop off := by
  rw [byteStreamFrom_eq_drop, List.drop_drop, Nat.div_add_mod]

theorem keystream_prefix (seed : List Nat) (a b : Nat) : (byteStream seed (a + b)).take (16 * a) = byteStream seed a := by
  rw [byteStream_add, List.take_left' (byteStream_length seed a)]

end Falcon.ChaCha

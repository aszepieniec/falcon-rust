import Falcon.Lemmas.CodecRefine
import Falcon.Lemmas.CompressRefine
import Falcon.Gen.Params

/-!
# C07 — signature compression is lossless and canonical (Algorithms 17/18)

The bit-level reference codec `Falcon.Spec` (Algorithm 17/18 with the library's magnitude cap) is what the
property means.  `decompress_refines` shows that the byte-level model `Falcon.Codec.decompress` of
`encoding.rs` (every index, shift and OR of the Rust code) computes exactly that reference on every byte string;
`compress_refines` shows the same for the byte-level `Falcon.Codec.compress` and Algorithm 17; the remaining theorems
are about the reference and transfer to the byte-level models through these two.
-/
namespace Falcon.Props.C07
open Falcon Falcon.Spec

/-- the guards and caps extracted from `decompress` are the ones the property names
    (magnitudes below 95·128 = 12160; a non-last coefficient needs 10 more bits, the last one 9) -/
theorem source_constants :
    Gen.unaryCapMid = 95 ∧ Gen.unaryCapLast = 95 ∧ Gen.guardMid = 9 ∧ Gen.guardLast = 8 ∧ 95 * 128 = 12160 :=
  ⟨rfl, rfl, rfl, rfl, rfl⟩

/-- **refinement**: the byte-level model of `decompress` (indices, shifts, ORs, deferred "-0" flag, two-stage
    padding check) is Algorithm 18 with the cap, for every byte string, every n ≥ 1, both build modes -/
theorem decompress_refines (chk : Bool) (x : List Nat) (hx : ∀ b ∈ x, b < 256) (n : Nat) (hn : 1 ≤ n) :
    Codec.decompress chk x n = .ok (decompressRef 95 x n) :=
  Codec.decompress_eq_spec chk x hx n hn

/-- **refinement**: the byte-level model of `compress` (per coefficient four OR-writes at bit offsets into a
    zeroed buffer; separate handling of the last coefficient) is Algorithm 17, for every vector (no range
    restriction) and every byte budget; in particular it never indexes out of bounds -/
theorem compress_refines (v : List Int) (L : Nat) : Codec.compress v L = .ok (compressRef v L) :=
  Codec.compress_eq_spec v L

/-- compression fails exactly when the vector is empty or its encoding does not fit the byte budget -/
theorem compress_fits_iff (v : List Int) (L : Nat) :
    compressRef v L = none ↔ (v = [] ∨ 8 * L < (encBits v).length) := by
  simp only [compressRef, compressBits, Option.map_eq_none_iff]
  by_cases hc : v = [] ∨ (encBits v).length > 8 * L
  · simp only [hc, if_true]
  · simp only [hc, if_false, reduceCtorEq]

/-- lossless: whatever `compress` returns decompresses to the same vector (entries below 12160) -/
theorem compress_roundtrip (v : List Int) (L : Nat) (x : List Nat)
    (hv : ∀ c ∈ v, c.natAbs < 12160) (h : compressRef v L = some x) :
    decompressRef 95 x v.length = some v ∧ x.length = L ∧ ∀ b ∈ x, b < 256 := by
  obtain ⟨_, rfl, hw, _⟩ := compressRef_eq_some_iff.mp h
  exact ⟨(decompressRef_eq_some_iff hw).mpr ⟨rfl, fun c hc => by have := hv c hc; omega, h⟩, rfl, hw⟩

/-- the round trip on the byte-level models of the two Rust functions, both build modes -/
theorem compress_decompress_bytes (chk : Bool) (v : List Int) (L : Nat) (x : List Nat)
    (hv : ∀ c ∈ v, c.natAbs < 12160) (h : Codec.compress v L = .ok (some x)) :
    Codec.decompress chk x v.length = .ok (some v) := by
  rw [compress_refines] at h
  have h' : compressRef v L = some x := by injection h
  obtain ⟨hd, _, hwf⟩ := compress_roundtrip v L x hv h'
  have hne : 1 ≤ v.length := Nat.pos_of_ne_zero fun e => (compressRef_eq_some_iff.mp h').1 (List.length_eq_zero_iff.mp e)
  rw [decompress_refines chk x hwf v.length hne, hd]

/-- canonical: a byte string the decompressor accepts is exactly what compressing the returned vector
    into the same budget produces; the vector has the requested length and entries below 12160 -/
theorem decompress_canonical (x : List Nat) (n : Nat) (v : List Int)
    (hx : ∀ b ∈ x, b < 256) (h : decompressRef 95 x n = some v) :
    compressRef v x.length = some x ∧ v.length = n ∧ (∀ c ∈ v, c.natAbs < 12160) := by
  obtain ⟨h1, h2, h3⟩ := (decompressRef_eq_some_iff hx).mp h
  exact ⟨h3, h1, fun c hc => by have := h2 c hc; omega⟩

/-- consequently no two distinct strings of one length decode to the same vector (no malleability) -/
theorem decompress_injective (x y : List Nat) (n : Nat) (v : List Int)
    (hx : ∀ b ∈ x, b < 256) (hy : ∀ b ∈ y, b < 256) (hl : x.length = y.length)
    (h1 : decompressRef 95 x n = some v) (h2 : decompressRef 95 y n = some v) : x = y := by
  have a := (decompress_canonical x n v hx h1).1
  have b := (decompress_canonical y n v hy h2).1
  rw [hl] at a
  rw [a] at b
  exact Option.some.inj b

/-- hence the byte-level decompressor is canonical: whatever it accepts is the unique encoding of what it returns -/
theorem decompress_bytes_canonical (chk : Bool) (x : List Nat) (hx : ∀ b ∈ x, b < 256) (n : Nat) (hn : 1 ≤ n) (v : List Int)
    (h : Codec.decompress chk x n = .ok (some v)) :
    compressRef v x.length = some x ∧ v.length = n ∧ (∀ c ∈ v, c.natAbs < 12160) := by
  rw [decompress_refines chk x hx n hn] at h
  exact decompress_canonical x n v hx (Res.ok.inj h)

/-- negative zero (sign bit set, all value bits zero, empty unary run) is never accepted -/
theorem negative_zero_rejected (cap : Nat) (rest : List Bool) :
    decCoef cap (true :: false :: false :: false :: false :: false :: false :: false :: true :: rest) = none := by
  simp [decCoef, readUnary, bitsToNat]

/-- a set bit after the last coefficient is rejected -/
theorem dirty_padding_rejected (cap : Nat) (rest : List Bool) (h : true ∈ rest) : decBits cap 0 rest = none := by
  rw [decBits, if_neg fun ha => absurd (List.all_eq_true.mp ha true h) (by decide)]

/-- a unary run of `cap` zeros or more is rejected (out-of-range magnitude) -/
theorem long_run_rejected (cap : Nat) (hc : 0 < cap) (s b6 b5 b4 b3 b2 b1 b0 : Bool) (rest : List Bool) (r : Nat) (hr : cap ≤ r) :
    decCoef cap (s :: b6 :: b5 :: b4 :: b3 :: b2 :: b1 :: b0 :: (List.replicate r false ++ rest)) = none := by
  simp only [decCoef, readUnary_replicate_none cap rest r 0 hc (by omega)]

/-- truncated input (fewer than 9 bits left for a coefficient) is rejected -/
theorem truncated_rejected (cap : Nat) (bs : List Bool) (h : bs.length < 9) : decCoef cap bs = none :=
  decCoef_short cap bs h

/-! ### non-vacuity -/
example : compressRef [-771, 100] 3 = some [0x83, 0x02, 0xC9] := by decide
example : decompressRef 95 [0x83, 0x02, 0xC9] 2 = some [-771, 100] := by decide
example : Codec.compress [-771, 100] 3 = .ok (some [0x83, 0x02, 0xC9]) := by decide
example : decompressRef 95 [0x80, 0x80] 1 = none := by decide          -- "-0"
example : decompressRef 95 [0x00, 0x81] 1 = none := by decide          -- dirty padding

end Falcon.Props.C07

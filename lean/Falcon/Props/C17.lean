import Falcon.Lemmas.EntrySound
import Falcon.Lemmas.BabaiIdem
import Falcon.Lemmas.NttBreadthFirst

/-!
# C17 — Babai size reduction preserves the NTRU equation; the 32-bit path multiplies exactly

* ring part (all n, all inputs, every quotient the floating-point code may produce): a reduction step
  (F, G) ↦ (F − k⋆f, G − k⋆g) and the whole loop leave f⋆G − g⋆F unchanged in Z[X]/(X^n+1);
* the loop stops exactly when its quotient is zero, so a second run on its result is the identity;
* the same two facts for the reductions as modelled, floating-point quotients included: the big-integer loop returns
  (F − K⋆f, G − K⋆g) for one integer polynomial K, and both loops are idempotent;
* the 30-bit-prime tables used by the multi-modular path are consistent (kernel evaluation over the
  tables re-extracted from fast_fft.rs), the Z_p transform multiplies, and a product within ±(p−1)/2 comes back exactly;
* the Z_p transforms of the model return what the breadth-first loop nest `FftFlt.nttBF` / `inttBF` returns
  (`zp_ntt_is_the_breadth_first_loop_nest`, `zp_intt_is_the_breadth_first_loop_nest`).
Agreement of the two floating-point quotient computations (32-bit vs. big-integer path) is not proved; both
functions are run on the same inputs on every check and compared.
-/
namespace Falcon.Props.C17
open Falcon Falcon.RingZ

/-- one reduction step preserves f⋆G − g⋆F, at every root of X^n+1 in every commutative ring (in
    particular in Z[X]/(X^n+1) itself), for every quotient polynomial k -/
theorem step_preserves_ntru {R : Type} [CommRing R] (n : Nat) (hn : 0 < n) (ρ : R) (hρ : ρ ^ n = -1)
    (f g cF cG k : List Int) (hf : f.length = n) (hg : g.length = n) (hF : cF.length = n) (hG : cG.length = n) :
    ev (ntruLhs n f g (babaiStep n f g (cF, cG) k).1 (babaiStep n f g (cF, cG) k).2) ρ = ev (ntruLhs n f g cF cG) ρ :=
  (ByMultiple.step k).ev_ntruLhs hf hg hF hG ρ hρ

/-- so does the whole loop, whatever sequence of quotients the floating-point computation supplies -/
theorem reduction_preserves_ntru {R : Type} [CommRing R] (n : Nat) (hn : 0 < n) (ρ : R) (hρ : ρ ^ n = -1)
    (f g : List Int) (hf : f.length = n) (hg : g.length = n) (ks : List (List Int)) (cF cG : List Int)
    (hF : cF.length = n) (hG : cG.length = n) :
    ev (ntruLhs n f g (babaiRun n f g ks (cF, cG)).1 (babaiRun n f g ks (cF, cG)).2) ρ = ev (ntruLhs n f g cF cG) ρ :=
  babaiRun_invariant n hn ρ hρ f g hf hg ks cF cG hF hG

/-- … as coefficient lists: the reduction leaves f⋆G − g⋆F in ℤ[X]/(Xⁿ+1) unchanged coefficient for coefficient
    (integer lists of length n are determined by their values at the roots of Xⁿ+1, `RingZ.ev_ext`) -/
theorem reduction_preserves_ntru_exact (n : Nat) (hn : 0 < n)
    (f g : List Int) (hf : f.length = n) (hg : g.length = n) (ks : List (List Int)) (cF cG : List Int)
    (hF : cF.length = n) (hG : cG.length = n) :
    ntruLhs n f g (babaiRun n f g ks (cF, cG)).1 (babaiRun n f g ks (cF, cG)).2 = ntruLhs n f g cF cG :=
  (babaiRun_multiple hn hf hg ks cF cG hF hG).ntruLhs_eq hn hf hg hF hG

/-- the step as math.rs computes it (`k.karatsuba(f).reduce_by_cyclotomic(n)`) is the modelled step, for n = 2^j -/
theorem babai_step_as_coded (j : Nat) (f g q : List Int) (FG : List Int × List Int) (hf : f.length = 2 ^ j)
    (hg : g.length = 2 ^ j) (hq : q.length = 2 ^ j) :
    babaiStepImpl (2 ^ j) f g FG q = babaiStep (2 ^ j) f g FG q := babaiStepImpl_eq j f g FG q hf hg hq

/-- the loop with the quotient as a (deterministic) function of the current pair -/
def reduceWith (n : Nat) (f g : List Int) (kOf : List Int × List Int → List Int) :
    Nat → List Int × List Int → Option (List Int × List Int)
  | 0, _ => none                                   -- round limit reached (the code returns Err)
  | fuel + 1, FG =>
    let k := kOf FG
    if k.all (· == 0) then some FG else reduceWith n f g kOf fuel (babaiStep n f g FG k)

/-- **idempotence**: the exit condition *is* "the quotient of the result is zero", hence reducing a reduced
    pair changes nothing -/
theorem reduce_idempotent (n : Nat) (f g : List Int) (kOf : List Int × List Int → List Int) :
    ∀ (fuel : Nat) (FG FG' : List Int × List Int), reduceWith n f g kOf fuel FG = some FG' →
      ∀ fuel', 0 < fuel' → reduceWith n f g kOf fuel' FG' = some FG' := by
  intro fuel FG FG' h fuel' hf
  obtain ⟨a, b, e, hs⟩ := exits_at_once (L := fun fuel a b => reduceWith n f g kOf fuel (a, b)) (out := fun a b => some (a, b))
    (r := some FG') (fun _ _ => nofun) (by
      intro fuel a b h
      simp only [reduceWith] at h ⊢
      split at h
      · rename_i hk
        exact .inl ⟨h, fun _ => by simp only [hk, if_true]; exact h⟩
      · exact .inr ⟨_, _, h⟩) fuel FG.1 FG.2 h
  obtain rfl := Option.some.inj e
  obtain ⟨m, rfl⟩ : ∃ m, fuel' = m + 1 := ⟨fuel' - 1, by omega⟩
  exact hs m

def sqPassM (m : Nat) : List Nat → List Nat → Bool
  | p :: ps, c0 :: c1 :: cs => (c0 * c0 % m == p) && (c1 * c1 % m == (m - p) % m) && sqPassM m ps cs
  | _, [] => true
  | _, _ => false

def invPassM (m : Nat) : List Nat → List Nat → Bool
  | a :: as, b :: bs => (a * b % m == 1) && decide (a < m) && decide (b < m) && invPassM m as bs
  | [], [] => true
  | _, _ => false

/-- the Z_p forward transform of the model is the breadth-first loop nest of the Rust code (stage with m blocks, twiddle
    `psi_rev[m + i]` for block i), for every n = 2^d -/
theorem zp_ntt_is_the_breadth_first_loop_nest (d : Nat) (a : List Nat) (ha : a.length = 2 ^ d) :
    Zp.ntt d a = FftFlt.nttBF Zp.zpOps Zp.T d a := by
  rw [FftFlt.nttBF_eq_nttRecO Zp.zpOps Zp.T d a ha, Zp.ntt, Zp.nttRec_eq_O]

/-- … and so are the butterflies of the Z_p inverse transform (merging stages, innermost first, `psi_inv_rev[h + i]`) -/
theorem zp_intt_is_the_breadth_first_loop_nest (d : Nat) (a : List Nat) (ha : a.length = 2 ^ d) :
    Zp.inttRec d 1 a = FftFlt.inttBF Zp.zpOps Zp.TI d a := by
  rw [FftFlt.inttBF_eq_inttRecO Zp.zpOps Zp.TI d a ha, Zp.inttRec_eq_O]

/-- **size reduction changes (F, G) only by an integer-polynomial multiple of (f, g)** — the property's sentence, on the
    big-integer reduction as modelled (floating-point quotients included, whatever they are): the loop returns
    (F − K⋆f, G − K⋆g) for one integer polynomial K, coefficient for coefficient, for every n = 2^j and every input -/
theorem model_babai_reduce_changes_by_a_multiple (j size : Nat) (f g : List Int) (hf : f.length = 2 ^ j) (hg : g.length = 2 ^ j)
    (fStar gStar den : List FftFlt.C) (hfs : fStar.length = 2 ^ j) (hgs : gStar.length = 2 ^ j) (hden : den.length = 2 ^ j)
    (fuel : Nat) (cF cG : List Int) (h1 : cF.length = 2 ^ j) (h2 : cG.length = 2 ^ j) :
    ∃ K : List Int, K.length = 2 ^ j ∧
      (Keygen.babaiBigLoop (2 ^ j) size f g fStar gStar den fuel cF cG).2.1 = RingZ.subL cF (RingZ.negacyc (2 ^ j) K f) ∧
      (Keygen.babaiBigLoop (2 ^ j) size f g fStar gStar den fuel cF cG).2.2 = RingZ.subL cG (RingZ.negacyc (2 ^ j) K g) :=
  (Keygen.babaiBigLoop_multiple j size hf hg hfs hgs hden fuel cF cG h1 h2).reduced (Nat.two_pow_pos _) hf hg

/-- **a second reduction is the identity, for the reductions as modelled** (the floating-point quotient computation
    included, bit for bit what the Rust code does): if `babai_reduce_bigint` returns Ok with (F', G'), reducing (F', G')
    again returns Ok with the same pair -/
theorem model_babai_reduce_bigint_idempotent (f g cF cG : List Int) (h : (Keygen.babaiBig f g cF cG).1 = true) :
    Keygen.babaiBig f g (Keygen.babaiBig f g cF cG).2.1 (Keygen.babaiBig f g cF cG).2.2 =
      (true, (Keygen.babaiBig f g cF cG).2.1, (Keygen.babaiBig f g cF cG).2.2) :=
  Keygen.babaiBig_idempotent f g cF cG h

/-- … and the same for `babai_reduce_i32` (Z_p transforms, i32 arithmetic), in both build modes -/
theorem model_babai_reduce_i32_idempotent (chk : Bool) (f g cF cG a b : List Int)
    (h : Keygen.babaiI32 chk f g cF cG = .ok (true, a, b)) : Keygen.babaiI32 chk f g a b = .ok (true, a, b) :=
  Keygen.babaiI32_idempotent chk f g cF cG a b h

/-- ψ² relations down the tree, pointwise inverses, canonical entries, ψ^1024 = −1, and every n·n⁻¹ = 1: the check
    `ModNtt.tablesOK` of Lemmas/TableCheck at p (`sqPassM`, `invPassM` are its two passes), plus ψ^1024 and the n⁻¹ test -/
def u32TablesOK : Bool :=
  let m := 1073754113
  (Gen.p == m) &&
  (Gen.u32PsiRev.getD 1 0 * Gen.u32PsiRev.getD 1 0 % m == m - 1) &&
  sqPassM m (Gen.u32PsiRev.drop 1) (Gen.u32PsiRev.drop 2) && invPassM m Gen.u32PsiRev Gen.u32PsiInvRev &&
  (Gen.u32PsiRev.length == 1024) && (Gen.u32PsiRev.getD 0 0 == 1) &&
  (Gen.u32PsiRev.getD 512 0 ^ 1024 % m == m - 1) &&
  (Gen.u32Ninv.map (·.1) == [2, 4, 8, 16, 32, 64, 128, 256, 512, 1024]) &&
  Gen.u32Ninv.all fun (n, c) => n * c % m == 1 && decide (c < m)

theorem u32_tables_consistent : u32TablesOK = true := by
  -- `sqPassM`, `invPassM` are the two passes of `ModNtt.tablesOK`, which `Zp.tablesOK_true` has evaluated on these tables
  have sq (m : Nat) (ps cs : List Nat) : sqPassM m ps cs = ModNtt.sqPass m ps cs := by
    fun_induction sqPassM m ps cs with
    | case1 p ps c0 c1 cs ih => rw [ModNtt.sqPass, ih]
    | case2 => rw [ModNtt.sqPass]
    | case3 => rw [ModNtt.sqPass] <;> assumption
  have inv (m : Nat) (as bs : List Nat) : invPassM m as bs = ModNtt.invPass m as bs := by
    fun_induction invPassM m as bs with
    | case1 a as b bs ih => rw [ModNtt.invPass, ih]
    | case2 => rfl
    | case3 => rw [ModNtt.invPass] <;> assumption
  obtain ⟨-, hsq, hinv, -⟩ := ModNtt.tablesOK_iff.mp Zp.tablesOK_true
  simp only [Zp.Tl, Zp.TIl] at hsq hinv
  simp only [u32TablesOK, sq, inv, hsq, hinv, Bool.and_true]
  -- what is left: the modulus, ψ², the length, ψ^1024 and the ten n⁻¹
  decide +kernel

/-- exactness window: a product whose coefficients are below p/2 in magnitude is recovered exactly from its
    residues mod p by the balanced lift -/
theorem balanced_lift_exact (x : Int) (h : -536877056 ≤ x ∧ x ≤ 536877056) :
    let r := x % 1073754113
    (if r > 536877056 then r - 1073754113 else r) = x := by
  intro r
  simp only [r]
  omega

/-! ### non-vacuity -/
example : ntruLhs 2 [1, 2] [3, 1] [5, 7] [11, 13] = ntruLhs 2 [1, 2] [3, 1]
    (babaiStep 2 [1, 2] [3, 1] ([5, 7], [11, 13]) [2, -1]).1 (babaiStep 2 [1, 2] [3, 1] ([5, 7], [11, 13]) [2, -1]).2 := by decide

/-! ### the 32-bit path multiplies exactly: NTT multiplication in Z_p[X]/(X^n+1) (the C11 development at p) -/

section ZpNtt
open Falcon.Zp

/-- **round trip in Z_p**: the inverse transform of the forward transform is the identity -/
theorem zp_intt_ntt (d : Nat) (hd : d ≤ 10) (hd1 : 1 ≤ d) (a : List Nat) (hl : a.length = 2 ^ d) (hc : ∀ x ∈ a, x < 1073754113) :
    intt d (ntt d a) = .ok a :=
  Zp.intt_ntt d hd hd1 a hl hc

/-- **multiplication in Z_p**: the inverse transform of the pointwise product of the transforms is the
    negacyclic product a ⋆ b in Z_p[X]/(X^n+1), p = 1073754113 (the field of `babai_reduce_i32`) -/
theorem zp_ntt_mul_exact (d : Nat) (hd : d ≤ 10) (hd1 : 1 ≤ d) (a b : List Nat)
    (hla : a.length = 2 ^ d) (hlb : b.length = 2 ^ d) :
    intt d (hadamard (ntt d a) (ntt d b)) = .ok (negacyc (2 ^ d) a b) :=
  Zp.ntt_mul d hd hd1 a b hla hlb

/-- non-vacuity of `zp_ntt_mul_exact`: n = 2 -/
example : Zp.intt 1 (Zp.hadamard (Zp.ntt 1 [3, 5]) (Zp.ntt 1 [7, 11])) = .ok (Zp.negacyc 2 [3, 5] [7, 11]) := by decide

/-- **the 32-bit path multiplies exactly inside its window**: for k, f with entries strictly between −p and p whose
    integer product k⋆f has all coefficients within ±(p−1)/2, the model of what `babai_reduce_i32` does — `U32Field::new`
    on every coefficient, forward transforms, pointwise product, inverse transform, `balanced_value` — returns exactly
    k⋆f over ℤ, without overflow, in both build modes, for every n = 2…1024 -/
theorem zp_product_is_the_integer_product (chk : Bool) (d : Nat) (hd : d ≤ 10) (hd1 : 1 ≤ d) (k f : List Int)
    (lk : k.length = 2 ^ d) (lf : f.length = 2 ^ d)
    (hk : ∀ x ∈ k, -1073754113 < x ∧ x < 1073754113) (hf : ∀ x ∈ f, -1073754113 < x ∧ x < 1073754113)
    (hb : ∀ x ∈ RingZ.negacyc (2 ^ d) k f, -536877056 ≤ x ∧ x ≤ 536877056) :
    ∃ kp fp r, k.mapM (Zp.new chk) = .ok kp ∧ f.mapM (Zp.new chk) = .ok fp ∧
      Zp.intt d (Zp.hadamard (Zp.ntt d kp) (Zp.ntt d fp)) = .ok r ∧
      r.mapM (Zp.balanced chk) = .ok (RingZ.negacyc (2 ^ d) k f) :=
  ⟨_, _, _, Zp.mapM_new chk k hk, Zp.mapM_new chk f hf, (Keygen.zp_mul chk d hd hd1 k f lk lf hb).1,
    (Keygen.zp_mul chk d hd hd1 k f lk lf hb).2⟩

end ZpNtt

end Falcon.Props.C17

import Falcon.Lemmas.FfSamplingExact
import Falcon.Lemmas.SignRefine

/-!
# C10 — signatures are spherical Gaussian: the exact-field identities behind it

What makes the output spherical is (i) the LDL* decomposition of the Gram matrix used to build the tree and
(ii) the nearest-plane identity ‖(t − z)·B‖² = Σ_leaves (t'_leaf − z_leaf)²·d_leaf together with the
normalisation σ_leaf = σ/√d_leaf.  Proved here: over an arbitrary field the 2×2 LDL identity and the one-level
nearest-plane identity; and, for the model of `ldl` / `ffldl` / `ffsampling` (`Model/FfSampling`, written over abstract
field operations) instantiated with any field with an involution, the identity at FULL depth
(`fast_fourier_nearest_plane_identity`): for every depth, every Hermitian Gram matrix with non-zero pivots, every
target and every sequence of leaf outputs.  The same model instantiated with floating-point pairs is compared bit for
bit with the Rust code per key and per traced signature, and the identity is evaluated numerically on every traced
signature (to 10⁻⁶ relative, observed 10⁻¹²).  NOT decided: closeness of the joint law to the
spherical discrete Gaussian (Klein/GPV theorem and its smoothing-parameter condition).
-/
namespace Falcon.Props.C10

/-- the standard deviations the signer uses are the specification's (Table 3.3): σ = 165.7366171829776 /
    168.38857144654395, σ_min = 1.2778336969128337 / 1.298280334344292 (IEEE bit patterns of the literals), and
    the acceptance bound of key generation is the literal 1.3689 = 1.17² (that it keeps every leaf width at least σ_min is
    not decided here) -/
theorem sampler_parameters_are_the_specifications :
    Gen.sigmaBits512 = 4640035355371950575 ∧ Gen.sigminBits512 = 4608433670533905013 ∧
    Gen.sigmaBits1024 = 4640128662717522458 ∧ Gen.sigminBits1024 = 4608525754002622308 ∧
    Gen.gammaBoundBits = 4608843796702554384 := ⟨rfl, rfl, rfl, rfl, rfl⟩

variable {K : Type} [Field K]

/-- **LDL\***: with l10 = g10/g00, its conjugate l10' = g01/g00, d00 = g00, d11 = g11 − l10·l10'·g00 (as in `ldl`),
    L·D·L* reproduces all four entries of G -/
theorem ldl_reconstructs (g00 g01 g10 g11 : K) (h0 : g00 ≠ 0) :
    let l10 := g10 / g00; let l10' := g01 / g00; let d00 := g00; let d11 := g11 - l10 * l10' * g00
    d00 = g00 ∧ l10 * d00 = g10 ∧ d00 * l10' = g01 ∧ l10 * d00 * l10' + d11 = g11 := by
  intro l10 l10' d00 d11
  exact ⟨rfl, div_mul_cancel₀ g10 h0, mul_div_cancel₀ g01 h0, by simp only [d11, d00]; ring⟩

/-- **nearest plane, one level**: for the quadratic form of G = L·D·L* (real case, l10' = l10), any target
    (t0, t1) and any outputs (z0, z1), with t0' = t0 + (t1 − z1)·l10:
    (t−z)·G·(t−z)ᵀ = (t0' − z0)²·d00 + (t1 − z1)²·d11 -/
theorem nearest_plane_step (g00 g10 g11 t0 t1 z0 z1 : K) (h0 : g00 ≠ 0) :
    let l10 := g10 / g00; let d11 := g11 - l10 * l10 * g00
    let t0' := t0 + (t1 - z1) * l10
    (t0 - z0) * (t0 - z0) * g00 + 2 * (t0 - z0) * (t1 - z1) * g10 + (t1 - z1) * (t1 - z1) * g11
      = (t0' - z0) * (t0' - z0) * g00 + (t1 - z1) * (t1 - z1) * d11 := by
  intro l10 d11 t0'
  -- the two sides differ by 2·(t0 − z0)·(t1 − z1)·(g10 − l10·g00)
  have h : l10 * g00 = g10 := div_mul_cancel₀ g10 h0
  linear_combination (-2 * (t0 - z0) * (t1 - z1)) * h

/-- normalisation: a leaf with value d gets width σ/√d, so (x/σ_leaf)² = x²·d/σ²: the weighted sum of
    squares above is σ² times the sum of squared normalised deviations -/
theorem leaf_normalisation (x d sigma s : K) (hs : s * s = d) (hsig : sigma ≠ 0) (hs0 : s ≠ 0) :
    sigma * sigma * ((x / (sigma / s)) * (x / (sigma / s))) = x * x * d := by
  rw [← hs]; field_simp

section FullDepth
open Falcon.FfS
variable {F : Type} [Field F] [StarRing F]

/-- **fast-Fourier nearest plane, every depth**: for the Falcon tree `ffldl` of every Gram matrix that is Hermitian with
    non-zero pivots at every level (`Good`; for the Gram matrix of a basis all pivots are positive), every target (t0, t1)
    of length 2^(k+1), unit-modulus twiddles, and EVERY sequence of leaf outputs (the integer sampler is a parameter): the
    outputs (z0, z1) of `ffsampling` have the right lengths and

      Σ_slots (t − z)·G·(t − z)^*  =  acc,

    the weighted sum of the leaf deviations accumulated along the recursion (2·(b − z)·G_leaf·(b − z)^* at the two leaves
    of a bottom branch, doubled at every level above; `leaf_term` gives the leaf's contribution in the form the code uses) -/
theorem fast_fourier_nearest_plane_identity (T : Nat → F) (hT : ∀ j, 1 ≤ j → T j * star (T j) = 1) (h2 : (2 : F) ≠ 0)
    (k : Nat) (g : Gram F) (hg : Good T k g) (t0 t1 s : List F) (l0 : t0.length = 2 ^ (k + 1)) (l1 : t1.length = 2 ^ (k + 1)) :
    (ffsampling fieldOps T (TIof T) (ffldl fieldOps (TIof T) k g) t0 t1 s).1.length = 2 ^ (k + 1) ∧
    (ffsampling fieldOps T (TIof T) (ffldl fieldOps (TIof T) k g) t0 t1 s).2.1.length = 2 ^ (k + 1) ∧
    QG (2 ^ (k + 1)) g
        (List.zipWith (fieldOps (K := F)).sub t0 (ffsampling fieldOps T (TIof T) (ffldl fieldOps (TIof T) k g) t0 t1 s).1)
        (List.zipWith (fieldOps (K := F)).sub t1 (ffsampling fieldOps T (TIof T) (ffldl fieldOps (TIof T) k g) t0 t1 s).2.1)
      = acc T k g t0 t1 s :=
  ffsampling_quadratic_form T h2 k (fun j hj _ => hT j hj) g hg t0 t1 s l0 l1

/-- a leaf whose two slot values coincide (= δ: the diagonal entry is a real constant, as for the transform of a
    self-adjoint real polynomial) contributes δ·(|a0|² + |a1|²): with σ_leaf = σ/√δ this is σ²·((a0/σ_leaf)² + (a1/σ_leaf)²) -/
theorem leaf_term (T : Nat → F) (δ a0 a1 : F) (h2 : (2 : F) ≠ 0) :
    QG 1 (childGram fieldOps (TIof T) [δ, δ]) [a0] [a1] = δ * (a0 * star a0 + a1 * star a1) :=
  leaf_form T δ a0 a1 h2

/-- one level: LDL* on the quadratic form, then each diagonal entry one level down (`branch_step`), for ANY four
    half-size vectors in place of the children's outputs -/
theorem one_branch {m : Nat} (T : Nat → F) (g : Gram F) (hg : Herm (2 * m) g) (t0 t1 z0a z0b z1a z1b : List F)
    (l0 : t0.length = 2 * m) (l1 : t1.length = 2 * m) (la0 : z0a.length = m) (lb0 : z0b.length = m)
    (la1 : z1a.length = m) (lb1 : z1b.length = m)
    (hT : ∀ i, i < m → T (m + i) * star (T (m + i)) = 1) (h2 : (2 : F) ≠ 0) :
    QG (2 * m) g (List.zipWith (fieldOps (K := F)).sub t0 (merge fieldOps T z0a z0b))
        (List.zipWith (fieldOps (K := F)).sub t1 (merge fieldOps T z1a z1b)) =
      2 * QG m (childGram fieldOps (TIof T) (ldl fieldOps g).2.1)
          (List.zipWith (fieldOps (K := F)).sub (split fieldOps (TIof T) (List.zipWith (fieldOps (K := F)).add t0
            (List.zipWith (fieldOps (K := F)).mul (List.zipWith (fieldOps (K := F)).sub t1 (merge fieldOps T z1a z1b)) (ldl fieldOps g).1))).1 z0a)
          (List.zipWith (fieldOps (K := F)).sub (split fieldOps (TIof T) (List.zipWith (fieldOps (K := F)).add t0
            (List.zipWith (fieldOps (K := F)).mul (List.zipWith (fieldOps (K := F)).sub t1 (merge fieldOps T z1a z1b)) (ldl fieldOps g).1))).2 z0b) +
      2 * QG m (childGram fieldOps (TIof T) (ldl fieldOps g).2.2)
          (List.zipWith (fieldOps (K := F)).sub (split fieldOps (TIof T) t1).1 z1a)
          (List.zipWith (fieldOps (K := F)).sub (split fieldOps (TIof T) t1).2 z1b) :=
  branch_step m T g hg t0 t1 z0a z0b z1a z1b l0 l1 la0 lb0 la1 lb1 hT h2

/-- the child Gram matrices are Hermitian automatically; only their pivots are a hypothesis -/
theorem tree_gram_matrices_are_hermitian (m : Nat) (T : Nat → F) (d : List F) (ld : d.length = 2 * m)
    (hd : ∀ j, j < 2 * m → star (at' d j) = at' d j)
    (hp : ∀ i, i < m → at' (split fieldOps (TIof T) d).1 i ≠ 0) : Herm m (childGram fieldOps (TIof T) d) :=
  herm_child m T d ld hd hp

/-- non-vacuity: over ℚ (trivial involution, twiddles 1) a diagonal Gram matrix with positive entries meets `Good` -/
example : Good (fun _ => (1 : ℚ)) 0 ⟨[2, 2], [0, 0], [0, 0], [3, 3]⟩ := good_diagonal

end FullDepth

/-- the recursion that the signing model runs with `sampler_z` at the leaves (`SignFlt.ffsamplingR`: compared byte for
    byte with the real `sign`) IS the generic `ffsampling` about which the identity above is proved, applied to the
    integers the sampler returned — for every tree, target and stream (no arithmetic is involved: the two definitions
    perform the same operations) -/
theorem signing_recursion_is_the_generic_one (chk : Bool) (sigmin : Float) (tree : FfS.Tree FftFlt.C)
    (t0 t1 : List FftFlt.C) (st : List Nat) (z0 z1 : List FftFlt.C) (st' : List Nat) (zs : List Int)
    (h : SignFlt.ffsamplingR chk sigmin tree t0 t1 st = .ok (some (z0, z1, st', zs))) (rest : List FftFlt.C) :
    FfS.ffsampling FfS.cfops FftFlt.T FftFlt.TI tree t0 t1 (FfS.ofInts zs ++ rest) = (z0, z1, rest) :=
  SignFlt.ffsamplingR_generic chk sigmin tree t0 t1 st z0 z1 st' zs h rest

end Falcon.Props.C10

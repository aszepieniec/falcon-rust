import Falcon.Model.Hash
import Falcon.Lemmas.HashStream
import Mathlib.Data.Finset.Card
import Mathlib.Data.Finset.Image

/-!
# C14 — HashToPoint is the specified rejection sampler (Algorithm 3)

Theorems about the loop of `hash_to_point` for an *arbitrary* stream of 16-bit chunks σ (so they do not
depend on SHAKE-256, which is modelled by an executable transcription validated against the `sha3` crate
on every run): the result is the accepted chunks (< 61445 = 5q) reduced mod q, in order, as many as
requested; every coefficient is canonical; the n = 512 point is a prefix of the n = 1024 point.

The second half is about the function as a whole, `hashToPoint` with its SHAKE-256 squeezing: whenever it returns n
coefficients they are Algorithm 3 on every sufficiently long prefix of the string's stream, so how many blocks were squeezed
and in what batches does not matter (`hash_to_point_is_algorithm3`); canonicity and the prefix property follow for the function
itself.  `accepted_words_per_residue` is why the threshold is 5q.
-/
namespace Falcon.Props.C14
open Falcon Falcon.Hash

/-- the constants extracted from polynomial.rs: K = ⌊2^16 / q⌋ = 5, threshold `t < K·q` = 61445, big-endian chunks -/
theorem source_constants :
    Gen.hashK = 5 ∧ Gen.hashK * Zq.q = 61445 ∧ Gen.hashCmpLe = false ∧
    Gen.hashHiIdx = 0 ∧ Gen.hashLoIdx = 1 ∧ Gen.hashShift = 8 := ⟨rfl, rfl, rfl, rfl, rfl, rfl⟩

/-- **Algorithm 3**: the loop returns the first n accepted chunks, each reduced modulo q -/
theorem loop_eq_spec : ∀ (σ : List Nat) (n : Nat),
    loop σ n = ((σ.filter (· < 61445)).map (· % 12289)).take n :=
  HashStream.loop_eq

/-- every coefficient is in [0, q) -/
theorem loop_canonical (σ : List Nat) (n : Nat) : ∀ c ∈ loop σ n, c < 12289 := by
  rw [loop_eq_spec]
  intro c hc
  have := List.mem_of_mem_take hc
  simp only [List.mem_map] at this
  obtain ⟨t, _, rfl⟩ := this
  exact Nat.mod_lt _ (by decide)

/-- the Falcon-512 point of a string is the first half of its Falcon-1024 point (same stream) -/
theorem prefix_512_of_1024 (σ : List Nat) : loop σ 512 = (loop σ 1024).take 512 := by
  rw [loop_eq_spec, loop_eq_spec, List.take_take]
  simp

/-- length-exact: when the stream prefix holds at least n accepted chunks the loop returns exactly n coefficients -/
theorem loop_length (σ : List Nat) (n : Nat) (h : n ≤ (σ.filter (· < 61445)).length) : (loop σ n).length = n := by
  rw [loop_eq_spec, List.length_take, List.length_map]; omega

/-- chunks are big-endian 16-bit words of the byte stream -/
theorem chunks16_cons (a b : Nat) (rest : List Nat) : chunks16 (a :: b :: rest) = (a * 256 + b) :: chunks16 rest := rfl

/-! ### the function as a whole: `hash_to_point(string, n)` with its SHAKE-256 squeezing -/

/-- **`hash_to_point` = Algorithm 3 on the string's SHAKE-256 stream**: whenever the function returns n coefficients
    (it always does unless the stream holds fewer than n accepted words in the model's squeezing budget), they are
    the first n words below 5q of the big-endian 16-bit reading of the stream, reduced mod q — for every sufficiently
    long prefix of the stream, so the number of blocks squeezed and their batching do not matter -/
theorem hash_to_point_is_algorithm3 (msg : List Nat) (n : Nat) (h : (hashToPoint msg n).length = n) :
    ∃ k, ∀ m, k ≤ m →
      hashToPoint msg n = (((chunks16 (Keccak.shake256 msg m)).filter (· < 61445)).map (· % 12289)).take n := by
  obtain ⟨k, hk⟩ := HashStream.hashToPoint_stable msg n h
  exact ⟨k, fun m hm => by rw [← hk m hm, loop_eq_spec]; rfl⟩

/-- every coefficient of the hashed point is in [0, q) -/
theorem hash_to_point_canonical (msg : List Nat) (n : Nat) (h : (hashToPoint msg n).length = n) :
    ∀ c ∈ hashToPoint msg n, c < 12289 := by
  obtain ⟨k, hk⟩ := HashStream.hashToPoint_stable msg n h
  rw [← hk k (Nat.le_refl k)]
  exact loop_canonical _ _

/-- the Falcon-512 point of a string is the first half of its Falcon-1024 point — for the function itself, although
    the two calls squeeze different numbers of blocks -/
theorem hash_512_is_prefix_of_1024 (msg : List Nat) (h5 : (hashToPoint msg 512).length = 512)
    (h10 : (hashToPoint msg 1024).length = 1024) : hashToPoint msg 512 = (hashToPoint msg 1024).take 512 := by
  obtain ⟨k1, hk1⟩ := HashStream.hashToPoint_stable msg 512 h5
  obtain ⟨k2, hk2⟩ := HashStream.hashToPoint_stable msg 1024 h10
  rw [← hk1 (max k1 k2) (Nat.le_max_left _ _), ← hk2 (max k1 k2) (Nat.le_max_right _ _)]
  exact prefix_512_of_1024 _

/-- why the threshold is 5q: every residue r has exactly five accepted 16-bit words (r, r+q, …, r+4q), so the reduced
    coefficient of an accepted word is uniform on [0, q) when the word is uniform -/
theorem accepted_words_per_residue (r : Nat) (hr : r < 12289) :
    ((Finset.range 61445).filter (fun t => t % 12289 = r)).card = 5 := by
  have : (Finset.range 61445).filter (fun t => t % 12289 = r) = (Finset.range 5).image (fun k => r + 12289 * k) := by
    ext t
    simp only [Finset.mem_filter, Finset.mem_range, Finset.mem_image]
    constructor
    · rintro ⟨ht, hm⟩
      exact ⟨t / 12289, Nat.div_lt_of_lt_mul (k := 5) ht, hm ▸ Nat.mod_add_div t 12289⟩
    · rintro ⟨k, hk, rfl⟩
      exact ⟨by omega, by rw [Nat.add_mul_mod_self_left, Nat.mod_eq_of_lt hr]⟩
  rw [this, Finset.card_image_of_injective _ (fun a b h =>
    Nat.eq_of_mul_eq_mul_left (by decide : 0 < 12289) (Nat.add_left_cancel h)), Finset.card_range]

/-- non-vacuity: 61444 is accepted (as 61444 mod q = 12288), 61445 and 65535 are discarded -/
example : loop [61445, 61444, 65535, 7, 12289] 3 = [12288, 7, 0] := by decide

end Falcon.Props.C14

import Falcon.Model.FfSampling
import Falcon.Lemmas.FftExact
import Mathlib.Algebra.Star.Basic
import Mathlib.Algebra.BigOperators.Ring.Finset
import Mathlib.Algebra.Star.Rat
import Mathlib.Tactic.FieldSimp
import Mathlib.Tactic.Ring
import Mathlib.Tactic.LinearCombination
/-!
Exact-arithmetic theory of the Falcon tree and of fast-Fourier nearest plane (`Model/FfSampling` over a field with an
involution): the quadratic form of the Gram matrix at t − z equals `acc`, the sum over the leaves of the quadratic forms of
the leaf Gram matrices at the leaf deviations, doubled at every level — for every depth, every Hermitian Gram matrix
without zero pivots and EVERY sequence of leaf outputs.  Where the two slot values of a leaf coincide (= δ; the Rust code
reads only the first), its term is δ·(|a0|² + |a1|²) (`leaf_form`): there `acc` is the weighted sum of the squared leaf
deviations.
-/
namespace Falcon.FfS
open Falcon.FftFlt Finset

variable {K : Type} [Field K]

/-- slot j of a vector, 0 beyond its end -/
def at' (v : List K) (j : Nat) : K := v.getD j 0
local notation v "⟦" j "⟧" => at' v j

section vectors
variable {n j : Nat} {a b : List K}

theorem at_zipWith (f : K → K → K) (ha : a.length = n) (hb : b.length = n) (hj : j < n) :
    (List.zipWith f a b)⟦j⟧ = f (a⟦j⟧) (b⟦j⟧) := by
  simp only [at', List.getD_eq_getElem?_getD, List.getElem?_zipWith, List.getElem?_eq_getElem (ha ▸ hj),
    List.getElem?_eq_getElem (hb ▸ hj), Option.getD_some]

theorem at_map (f : K → K) (ha : a.length = n) (hj : j < n) : (a.map f)⟦j⟧ = f (a⟦j⟧) := by
  simp only [at', List.getD_eq_getElem?_getD, List.getElem?_map, List.getElem?_eq_getElem (ha ▸ hj), Option.map_some,
    Option.getD_some]

theorem at_map_range (f : Nat → K) (hj : j < n) : ((List.range n).map f)⟦j⟧ = f j := by
  simp only [at', List.getD_eq_getElem?_getD, List.getElem?_map, List.getElem?_range hj, Option.map_some, Option.getD_some]

end vectors

theorem sum_range_pairs (F : ℕ → K) : ∀ m, ∑ j ∈ range (2 * m), F j = ∑ i ∈ range m, (F (2 * i) + F (2 * i + 1))
  | 0 => rfl
  | m + 1 => by
    rw [Nat.mul_add_one, sum_range_succ, sum_range_succ, sum_range_pairs F m, sum_range_succ, add_assoc]

theorem pair_lt {i m : Nat} (h : i < m) : 2 * i < 2 * m ∧ 2 * i + 1 < 2 * m := by omega

variable [StarRing K]

/-- the exact instance: field operations, complex conjugation = `star`, ½ = 2⁻¹ -/
def fieldOps : FOps K := ⟨(· + ·), (· - ·), (· * ·), (· / ·), star, (2 : K)⁻¹, 0⟩

/-- the conj-twiddles of the model -/
def TIof (T : Nat → K) : Nat → K := fun k => star (T k)

theorem split_eq (TI : Nat → K) (a : List K) {m : Nat} (la : a.length = 2 * m) :
    split fieldOps TI a = splitO ringOps TI 2⁻¹ m a := by
  rw [split, la, Nat.mul_div_cancel_left m Nat.two_pos]
  rfl

theorem merge_eq (T : Nat → K) (a b : List K) : merge fieldOps T a b = mergeO ringOps T a.length a b := rfl

theorem split_eq_map (TI : Nat → K) (a : List K) {m : Nat} (la : a.length = 2 * m) :
    split fieldOps TI a = ((List.range m).map fun i => 2⁻¹ * (a⟦2 * i⟧ + a⟦2 * i + 1⟧),
      (List.range m).map fun i => 2⁻¹ * TI (m + i) * (a⟦2 * i⟧ - a⟦2 * i + 1⟧)) := by
  rw [split_eq TI a la, splitO_eq_map, la, Nat.mul_div_cancel_left m Nat.two_pos]
  rfl

theorem split_length (TI : Nat → K) (a : List K) {m : Nat} (la : a.length = 2 * m) :
    (split fieldOps TI a).1.length = m ∧ (split fieldOps TI a).2.length = m := by
  rw [split_eq_map TI a la]
  simp

theorem merge_length (T : Nat → K) (a b : List K) {m : Nat} (la : a.length = m) (lb : b.length = m) :
    (merge fieldOps T a b).length = 2 * m := by
  rw [merge_eq, la, mergeO_eq_flatMap T m a b m la lb]
  simp [Nat.mul_comm]

theorem split_sub_merge_eq (m : Nat) (T TI : Nat → K) (t za zb : List K) (lt : t.length = 2 * m) (la : za.length = m)
    (lb : zb.length = m) (hT : ∀ i, i < m → T (m + i) * TI (m + i) = 1) (h2 : (2 : K) ≠ 0) :
    split fieldOps TI (List.zipWith (fieldOps (K := K)).sub t (merge fieldOps T za zb)) =
      (List.zipWith (fieldOps (K := K)).sub (split fieldOps TI t).1 za,
       List.zipWith (fieldOps (K := K)).sub (split fieldOps TI t).2 zb) := by
  rw [split_eq TI _ (List.length_zipWith_eq _ lt (merge_length T za zb la lb)), split_eq TI t lt, merge_eq, la]
  have h := splitO_sub TI 2⁻¹ t (mergeO ringOps T m za zb) m
  rwa [splitO_mergeO T TI 2⁻¹ (inv_mul_cancel₀ h2) za zb m (la.trans lb.symm) (by rwa [la])] at h

theorem split_sub_merge (m : Nat) (T : Nat → K) (t za zb : List K) (lt : t.length = 2 * m) (la : za.length = m)
    (lb : zb.length = m) (hT : ∀ i, i < m → T (m + i) * star (T (m + i)) = 1) (h2 : (2 : K) ≠ 0) (i : Nat) (hi : i < m) :
    (split fieldOps (TIof T) (List.zipWith (fieldOps (K := K)).sub t (merge fieldOps T za zb))).1⟦i⟧ =
        (split fieldOps (TIof T) t).1⟦i⟧ - za⟦i⟧ ∧
    (split fieldOps (TIof T) (List.zipWith (fieldOps (K := K)).sub t (merge fieldOps T za zb))).2⟦i⟧ =
        (split fieldOps (TIof T) t).2⟦i⟧ - zb⟦i⟧ := by
  obtain ⟨s1, s2⟩ := split_length (TIof T) t lt
  rw [split_sub_merge_eq m T (TIof T) t za zb lt la lb hT h2]
  exact ⟨at_zipWith _ s1 la hi, at_zipWith _ s2 lb hi⟩

/-- Σ_j a_j d_j a_j^*: the quadratic form of a diagonal matrix, slot by slot -/
def Q1 (n : Nat) (a d : List K) : K := ∑ j ∈ range n, a⟦j⟧ * d⟦j⟧ * star (a⟦j⟧)

/-- Σ_j (u0 u1)_j G_j (u0 u1)_j^* -/
def QG (n : Nat) (g : Gram K) (u0 u1 : List K) : K :=
  ∑ j ∈ range n, (u0⟦j⟧ * g.g00⟦j⟧ * star (u0⟦j⟧) + u0⟦j⟧ * g.g01⟦j⟧ * star (u1⟦j⟧) +
    u1⟦j⟧ * g.g10⟦j⟧ * star (u0⟦j⟧) + u1⟦j⟧ * g.g11⟦j⟧ * star (u1⟦j⟧))

/-- per-slot Hermitian with non-zero pivot, all four vectors of length n -/
structure Herm (n : Nat) (g : Gram K) : Prop where
  l00 : g.g00.length = n
  l01 : g.g01.length = n
  l10 : g.g10.length = n
  l11 : g.g11.length = n
  r00 : ∀ j, j < n → star (g.g00⟦j⟧) = g.g00⟦j⟧
  r11 : ∀ j, j < n → star (g.g11⟦j⟧) = g.g11⟦j⟧
  h10 : ∀ j, j < n → g.g10⟦j⟧ = star (g.g01⟦j⟧)
  piv : ∀ j, j < n → g.g00⟦j⟧ ≠ 0

theorem Q1_congr (n : Nat) (a b d : List K) (h : ∀ j, j < n → a⟦j⟧ = b⟦j⟧) : Q1 n a d = Q1 n b d :=
  sum_congr rfl fun j hj => by rw [h j (mem_range.mp hj)]

/-- what `ldl` returns: l10 = g10/g00, d00 = g00, d11 = g11 − g00·l10·conj l10, slot by slot -/
theorem ldl_entries (n : Nat) (g : Gram K) (hg : Herm n g) :
    (ldl fieldOps g).1.length = n ∧ (ldl fieldOps g).2.1 = g.g00 ∧ (ldl fieldOps g).2.2.length = n ∧
    ∀ j, j < n → (ldl fieldOps g).1⟦j⟧ = g.g10⟦j⟧ / g.g00⟦j⟧ ∧
      (ldl fieldOps g).2.2⟦j⟧ = g.g11⟦j⟧ - g.g00⟦j⟧ * ((g.g10⟦j⟧ / g.g00⟦j⟧) * star (g.g10⟦j⟧ / g.g00⟦j⟧)) := by
  have ll : (List.zipWith (fieldOps (K := K)).div g.g10 g.g00).length = n := List.length_zipWith_eq _ hg.l10 hg.l00
  have lm := (List.length_map fun c => (fieldOps (K := K)).mul c ((fieldOps (K := K)).conj c)).trans ll
  refine ⟨ll, rfl, List.length_zipWith_eq _ hg.l11 (List.length_zipWith_eq _ hg.l00 lm), fun j hj => ?_⟩
  have e1 : (List.zipWith (fieldOps (K := K)).div g.g10 g.g00)⟦j⟧ = g.g10⟦j⟧ / g.g00⟦j⟧ := at_zipWith _ hg.l10 hg.l00 hj
  refine ⟨e1, ?_⟩
  simp only [ldl]
  rw [at_zipWith _ hg.l11 (List.length_zipWith_eq _ hg.l00 lm) hj, at_zipWith _ hg.l00 lm hj, at_map _ ll hj, e1]
  rfl

theorem QG_ldl (n : Nat) (g : Gram K) (hg : Herm n g) (u0 u1 w : List K)
    (hw : ∀ j, j < n → w⟦j⟧ = u0⟦j⟧ + u1⟦j⟧ * (ldl fieldOps g).1⟦j⟧) :
    QG n g u0 u1 = Q1 n w (ldl fieldOps g).2.1 + Q1 n u1 (ldl fieldOps g).2.2 := by
  obtain ⟨-, hd00, -, hent⟩ := ldl_entries n g hg
  unfold QG Q1
  rw [← sum_add_distrib]
  refine sum_congr rfl fun j hj => ?_
  rw [mem_range] at hj
  rw [hw j hj, hd00, (hent j hj).2, (hent j hj).1, hg.h10 j hj]
  have hp := hg.piv j hj
  simp only [star_add, star_mul', star_div₀, star_star, hg.r00 j hj]
  field_simp
  ring

theorem d11_real (n : Nat) (g : Gram K) (hg : Herm n g) (j : Nat) (hj : j < n) :
    star ((ldl fieldOps g).2.2⟦j⟧) = (ldl fieldOps g).2.2⟦j⟧ := by
  obtain ⟨-, -, -, hent⟩ := ldl_entries n g hg
  rw [(hent j hj).2]
  simp only [star_sub, star_mul', star_div₀, star_star, hg.r00 j hj, hg.r11 j hj]
  ring

/-- one pair of slots (ζ, −ζ), written in merged form -/
theorem pair_identity (a0 a1 sa0 sa1 d0 d1 z sz : K) (hz : z * sz = 1) :
    (a0 + z * a1) * (d0 + z * d1) * (sa0 + sz * sa1) + (a0 - z * a1) * (d0 - z * d1) * (sa0 - sz * sa1) =
      2 * (a0 * d0 * sa0 + a0 * d1 * sa1 + a1 * (z * z * d1) * sa0 + a1 * d0 * sa1) := by
  linear_combination (2 * d0 * a1 * sa1 + 2 * d1 * a0 * sa1) * hz

/-- a pair of slots (x, y) against its split (½(x + y), ½·z̄·(x − y)): the split is an isometry up to the factor 2.
    Each pair is the merge of its split (`merge_split_pair`; for the conjugates z and z̄ change places), and for merged
    pairs this is `pair_identity`, where z·z·d1 is the conjugate ½·z·(dx − dy) of d1 = ½·z̄·(dx − dy) -/
theorem pair_split {x y dx dy sx sy z sz h : K} (hz : z * sz = 1) (hh : h * 2 = 1) :
    x * dx * sx + y * dy * sy =
      2 * (h * (x + y) * (h * (dx + dy)) * (h * (sx + sy)) + h * (x + y) * (h * sz * (dx - dy)) * (h * z * (sx - sy)) +
        h * sz * (x - y) * (h * z * (dx - dy)) * (h * (sx + sy)) + h * sz * (x - y) * (h * (dx + dy)) * (h * z * (sx - sy))) := by
  obtain ⟨ex, ey⟩ := merge_split_pair hh hz x y
  obtain ⟨edx, edy⟩ := merge_split_pair hh hz dx dy
  obtain ⟨esx, esy⟩ := merge_split_pair hh ((mul_comm sz z).trans hz) sx sy
  have ed1 : z * z * (h * sz * (dx - dy)) = h * z * (dx - dy) := by linear_combination (z * h * (dx - dy)) * hz
  have key := pair_identity (h * (x + y)) (h * sz * (x - y)) (h * (sx + sy)) (h * z * (sx - sy)) (h * (dx + dy))
    (h * sz * (dx - dy)) z sz hz
  -- the right side is that of `key`; on the left the six merged pairs fold back into x, y, dx, dy, sx, sy
  rw [ed1] at key
  rw [← key, ex, ey, edx, edy, esx, esy]

theorem star_half : star ((2 : K)⁻¹) = (2 : K)⁻¹ := by
  rw [star_inv₀, star_ofNat]

theorem childGram_eq (TI : Nat → K) (d : List K) : childGram fieldOps TI d =
    ⟨(split fieldOps TI d).1, (split fieldOps TI d).2, (split fieldOps TI d).2.map star, (split fieldOps TI d).1⟩ := rfl

theorem Q1_level (m : Nat) (T : Nat → K) (a d : List K) (la : a.length = 2 * m) (ld : d.length = 2 * m)
    (hd : ∀ j, j < 2 * m → star (d⟦j⟧) = d⟦j⟧) (hT : ∀ i, i < m → T (m + i) * star (T (m + i)) = 1)
    (h2 : (2 : K) ≠ 0) :
    Q1 (2 * m) a d = 2 * QG m (childGram fieldOps (fun k => star (T k)) d)
      (split fieldOps (fun k => star (T k)) a).1 (split fieldOps (fun k => star (T k)) a).2 := by
  rw [childGram_eq, split_eq_map _ a la, split_eq_map _ d ld, Q1, QG, sum_range_pairs, mul_sum]
  refine sum_congr rfl fun i hi => ?_
  rw [mem_range] at hi
  simp only [List.map_map, at_map_range _ hi, Function.comp, star_add, star_sub, star_mul', star_star, star_half,
    hd _ (pair_lt hi).1, hd _ (pair_lt hi).2]
  exact pair_split (hT i hi) (inv_mul_cancel₀ h2)

theorem branch_step (m : Nat) (T : Nat → K) (g : Gram K) (hg : Herm (2 * m) g) (t0 t1 z0a z0b z1a z1b : List K)
    (l0 : t0.length = 2 * m) (l1 : t1.length = 2 * m) (la0 : z0a.length = m) (lb0 : z0b.length = m)
    (la1 : z1a.length = m) (lb1 : z1b.length = m)
    (hT : ∀ i, i < m → T (m + i) * star (T (m + i)) = 1) (h2 : (2 : K) ≠ 0) :
    let z1 := merge fieldOps T z1a z1b
    let t0' := List.zipWith (fieldOps (K := K)).add t0
      (List.zipWith (fieldOps (K := K)).mul (List.zipWith (fieldOps (K := K)).sub t1 z1) (ldl fieldOps g).1)
    let z0 := merge fieldOps T z0a z0b
    QG (2 * m) g (List.zipWith (fieldOps (K := K)).sub t0 z0) (List.zipWith (fieldOps (K := K)).sub t1 z1) =
      2 * QG m (childGram fieldOps (TIof T) (ldl fieldOps g).2.1)
          (List.zipWith (fieldOps (K := K)).sub (split fieldOps (TIof T) t0').1 z0a)
          (List.zipWith (fieldOps (K := K)).sub (split fieldOps (TIof T) t0').2 z0b) +
      2 * QG m (childGram fieldOps (TIof T) (ldl fieldOps g).2.2)
          (List.zipWith (fieldOps (K := K)).sub (split fieldOps (TIof T) t1).1 z1a)
          (List.zipWith (fieldOps (K := K)).sub (split fieldOps (TIof T) t1).2 z1b) := by
  intro z1 t0' z0
  obtain ⟨ll, -, ld11, -⟩ := ldl_entries (2 * m) g hg
  have lz1 : z1.length = 2 * m := merge_length T z1a z1b la1 lb1
  have lz0 : z0.length = 2 * m := merge_length T z0a z0b la0 lb0
  have lu1 := List.length_zipWith_eq (fieldOps (K := K)).sub l1 lz1
  have lmul := List.length_zipWith_eq (fieldOps (K := K)).mul lu1 ll
  have lt0' : t0'.length = 2 * m := List.length_zipWith_eq _ l0 lmul
  -- the vector w = t0' − z0 = (t0 − z0) + (t1 − z1)·l10
  have hw : ∀ j, j < 2 * m → (List.zipWith (fieldOps (K := K)).sub t0' z0)⟦j⟧ =
      (List.zipWith (fieldOps (K := K)).sub t0 z0)⟦j⟧ + (List.zipWith (fieldOps (K := K)).sub t1 z1)⟦j⟧ * (ldl fieldOps g).1⟦j⟧ := by
    intro j hj
    rw [at_zipWith _ lt0' lz0 hj, at_zipWith _ l0 lmul hj, at_zipWith _ lu1 ll hj, at_zipWith _ l0 lz0 hj]
    simp only [fieldOps]
    ring
  -- LDL*, then each diagonal entry (both are real) one level down, where split (· − merge z) = split · − z
  rw [QG_ldl (2 * m) g hg _ _ _ hw,
    Q1_level m T _ (ldl fieldOps g).2.1 (List.length_zipWith_eq _ lt0' lz0) hg.l00 hg.r00 hT h2,
    Q1_level m T _ _ lu1 ld11 (d11_real (2 * m) g hg) hT h2]
  rw [split_sub_merge_eq m T _ t0' z0a z0b lt0' la0 lb0 hT h2, split_sub_merge_eq m T _ t1 z1a z1b l1 la1 lb1 hT h2]
  rfl

/-- every Gram matrix met while building the tree of depth k is Hermitian with non-zero pivots (true for the Gram matrix
    of a basis: all pivots are positive) -/
def Good (T : Nat → K) : Nat → Gram K → Prop
  | 0, g => Herm 2 g
  | k + 1, g => Herm (2 ^ (k + 2)) g ∧ Good T k (childGram fieldOps (TIof T) (ldl fieldOps g).2.1) ∧
      Good T k (childGram fieldOps (TIof T) (ldl fieldOps g).2.2)

/-- the weighted sum of the leaf deviations, computed along the recursion of `ffsampling`: at the bottom
    2·(b − z)·G_leaf·(b − z)^* for the two leaves, doubled at every level above -/
def acc (T : Nat → K) : Nat → Gram K → List K → List K → List K → K
  | 0, g, t0, t1, s =>
    let b1 := split fieldOps (TIof T) t1
    let z1 := merge fieldOps T [s.headD 0] [s.tail.headD 0]
    let t0' := List.zipWith (fieldOps (K := K)).add t0
      (List.zipWith (fieldOps (K := K)).mul (List.zipWith (fieldOps (K := K)).sub t1 z1) (ldl fieldOps g).1)
    let b0 := split fieldOps (TIof T) t0'
    let s1 := s.tail.tail
    2 * QG 1 (childGram fieldOps (TIof T) (ldl fieldOps g).2.1)
        (List.zipWith (fieldOps (K := K)).sub b0.1 [s1.headD 0]) (List.zipWith (fieldOps (K := K)).sub b0.2 [s1.tail.headD 0]) +
    2 * QG 1 (childGram fieldOps (TIof T) (ldl fieldOps g).2.2)
        (List.zipWith (fieldOps (K := K)).sub b1.1 [s.headD 0]) (List.zipWith (fieldOps (K := K)).sub b1.2 [s.tail.headD 0])
  | k + 1, g, t0, t1, s =>
    let b1 := split fieldOps (TIof T) t1
    let r1 := ffsampling fieldOps T (TIof T) (ffldl fieldOps (TIof T) k (childGram fieldOps (TIof T) (ldl fieldOps g).2.2)) b1.1 b1.2 s
    let z1 := merge fieldOps T r1.1 r1.2.1
    let t0' := List.zipWith (fieldOps (K := K)).add t0
      (List.zipWith (fieldOps (K := K)).mul (List.zipWith (fieldOps (K := K)).sub t1 z1) (ldl fieldOps g).1)
    let b0 := split fieldOps (TIof T) t0'
    2 * acc T k (childGram fieldOps (TIof T) (ldl fieldOps g).2.1) b0.1 b0.2 r1.2.2 +
    2 * acc T k (childGram fieldOps (TIof T) (ldl fieldOps g).2.2) b1.1 b1.2 s

theorem ffsampling_quadratic_form (T : Nat → K) (h2 : (2 : K) ≠ 0) :
    ∀ (k : Nat), (∀ j, 1 ≤ j → j < 2 ^ (k + 1) → T j * star (T j) = 1) → ∀ (g : Gram K), Good T k g →
      ∀ (t0 t1 s : List K), t0.length = 2 ^ (k + 1) → t1.length = 2 ^ (k + 1) →
      (ffsampling fieldOps T (TIof T) (ffldl fieldOps (TIof T) k g) t0 t1 s).1.length = 2 ^ (k + 1) ∧
      (ffsampling fieldOps T (TIof T) (ffldl fieldOps (TIof T) k g) t0 t1 s).2.1.length = 2 ^ (k + 1) ∧
      QG (2 ^ (k + 1)) g
          (List.zipWith (fieldOps (K := K)).sub t0 (ffsampling fieldOps T (TIof T) (ffldl fieldOps (TIof T) k g) t0 t1 s).1)
          (List.zipWith (fieldOps (K := K)).sub t1 (ffsampling fieldOps T (TIof T) (ffldl fieldOps (TIof T) k g) t0 t1 s).2.1)
        = acc T k g t0 t1 s := by
  intro k
  induction k with
  | zero =>
    intro hT g hg t0 t1 s l0 l1
    have key := branch_step 1 T g hg t0 t1 [s.tail.tail.headD 0] [s.tail.tail.tail.headD 0] [s.headD 0] [s.tail.headD 0]
      l0 l1 rfl rfl rfl rfl (fun i hi => hT _ (Nat.le_add_right 1 i) (Nat.add_lt_add_left hi 1)) h2
    simp only [ffldl, ffsampling, acc]
    exact ⟨merge_length T _ _ rfl rfl, merge_length T _ _ rfl rfl, key⟩
  | succ k ih =>
    intro hT g ⟨hherm, hgl, hgr⟩ t0 t1 s l0 l1
    rw [Nat.pow_succ'] at l0 l1 hherm hT ⊢
    have hTm : ∀ i, i < 2 ^ (k + 1) → T (2 ^ (k + 1) + i) * star (T (2 ^ (k + 1) + i)) = 1 :=
      fun i hi => hT _ (Nat.le_add_right_of_le Nat.one_le_two_pow) (Nat.two_mul _ ▸ Nat.add_lt_add_left hi _)
    have ih := ih fun j h1 hj => hT j h1 (Nat.lt_of_lt_of_le hj (Nat.le_mul_of_pos_left _ Nat.two_pos))
    obtain ⟨ll, -⟩ := ldl_entries _ g hherm
    simp only [ffldl, ffsampling, acc]
    -- the right subtree, then the left one, whose target depends on what the right one returned
    obtain ⟨lb1a, lb1b⟩ := split_length (TIof T) t1 l1
    obtain ⟨lr1, lr2, hq1⟩ := ih _ hgr _ _ s lb1a lb1b
    generalize ffsampling fieldOps T (TIof T) (ffldl fieldOps (TIof T) k (childGram fieldOps (TIof T) (ldl fieldOps g).2.2))
      (split fieldOps (TIof T) t1).1 (split fieldOps (TIof T) t1).2 s = r1 at lr1 lr2 hq1 ⊢
    have lz1 := merge_length T r1.1 r1.2.1 lr1 lr2
    have lt0' := List.length_zipWith_eq (fieldOps (K := K)).add l0
      (List.length_zipWith_eq (fieldOps (K := K)).mul (List.length_zipWith_eq (fieldOps (K := K)).sub l1 lz1) ll)
    obtain ⟨lb0a, lb0b⟩ := split_length (TIof T) _ lt0'
    obtain ⟨lr3, lr4, hq0⟩ := ih _ hgl _ _ r1.2.2 lb0a lb0b
    generalize ffsampling fieldOps T (TIof T) (ffldl fieldOps (TIof T) k (childGram fieldOps (TIof T) (ldl fieldOps g).2.1))
      _ _ r1.2.2 = r0 at lr3 lr4 hq0 ⊢
    refine ⟨merge_length T _ _ lr3 lr4, lz1, ?_⟩
    rw [← hq0, ← hq1]
    exact branch_step (2 ^ (k + 1)) T g hherm t0 t1 r0.1 r0.2.1 r1.1 r1.2.1 l0 l1 lr3 lr4 lr1 lr2 hTm h2

/-- the bottom of the tree as the Rust code reads it: a leaf whose two slot values coincide (= δ, real: the diagonal
    entry is a real constant) -/
theorem leaf_form (T : Nat → K) (δ a0 a1 : K) (h2 : (2 : K) ≠ 0) :
    QG 1 (childGram fieldOps (TIof T) [δ, δ]) [a0] [a1] = δ * (a0 * star a0 + a1 * star a1) := by
  have hs : childGram fieldOps (TIof T) [δ, δ] = ⟨[δ], [0], [0], [δ]⟩ := by
    have hh : (2 : K)⁻¹ * (δ + δ) = δ := by rw [← two_mul, inv_mul_cancel_left₀ h2]
    simp only [childGram, split, splitO, fieldOps, FOps.ops, hh, sub_self, mul_zero, List.map_cons, List.map_nil, star_zero]
  rw [hs, QG, sum_range_one]
  simp only [at', List.getD_cons_zero]
  ring

/-- the realness half of `Herm` for the child Gram matrix is automatic; only the pivots are a hypothesis -/
theorem herm_child (m : Nat) (T : Nat → K) (d : List K) (ld : d.length = 2 * m)
    (hd : ∀ j, j < 2 * m → star (d⟦j⟧) = d⟦j⟧)
    (hp : ∀ i, i < m → (split fieldOps (TIof T) d).1⟦i⟧ ≠ 0) : Herm m (childGram fieldOps (TIof T) d) := by
  obtain ⟨l1, l2⟩ := split_length (TIof T) d ld
  have hreal : ∀ i, i < m → star ((split fieldOps (TIof T) d).1⟦i⟧) = (split fieldOps (TIof T) d).1⟦i⟧ := by
    intro i hi
    rw [split_eq_map _ d ld]
    simp only [at_map_range _ hi, star_mul', star_add, star_half, hd _ (pair_lt hi).1, hd _ (pair_lt hi).2]
  exact ⟨l1, l2, (List.length_map _).trans l2, l1, hreal, hreal, fun i hi => at_map _ l2 hi, hp⟩

/-- non-vacuity of `Good`: over ℚ, trivial involution, twiddles 1 -/
theorem good_diagonal : Good (fun _ => (1 : ℚ)) 0 ⟨[2, 2], [0, 0], [0, 0], [3, 3]⟩ :=
  ⟨rfl, rfl, rfl, rfl, fun _ _ => star_trivial _, fun _ _ => star_trivial _, fun _ _ => (star_trivial _).symm,
    fun j hj => by match j, hj with | 0, _ | 1, _ => norm_num [at']⟩

example : Good (fun _ => (1 : ℚ)) 0 ⟨[2, 2], [0, 0], [0, 0], [3, 3]⟩ := good_diagonal

end Falcon.FfS

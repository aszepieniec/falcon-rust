import Falcon.Lemmas.RefFormatEq
import Falcon.Lemmas.RefSigEq
import Falcon.Lemmas.CodecRefine

/-!
# C16 — interoperability with the reference implementation (PQClean)

`Falcon.RefFormat` transcribes the reference's key decoders (`codec.c`, `pqclean.c`).  Proved here: the
format parameters of the two sides coincide (lengths, header bytes, field widths, modulus, reserved value)
and the re-labelling map between the two signature framings is a bijection on headers; and the two *decoding
functions* are equal on every byte string (`reference_public_key_decoder_agrees`,
`reference_secret_key_decoder_agrees`: the reference's 32-bit accumulator loops against this library's bit-chunk
formulation), so each side decodes exactly the keys the other one does, to the same polynomials.  The transcription
is compared with the model on generated and mutated encodings on every run (`fmt_agree`), and all four
interoperability directions are run against the real PQClean code.  Known, intended gap (not a defect): the reference's signature decoder caps
coefficients at 2047 while this library and the specification accept up to the norm bound (honest signatures
stay far below 2047).

The signature half: the reference's `comp_decode` (transcribed as `RefSig.compDecode`) against Algorithm 18 with the
reference's cap, in both directions (`reference_signature_decoder_sound`, `reference_signature_decoder_complete`); hence
every body the reference accepts, zero-padded, decodes here to the same vector (`reference_signatures_decode_here`), and
every body accepted here with |x_i| ≤ 2047 is accepted there, also with the padding stripped
(`our_signatures_decode_at_the_reference`, `our_signatures_stripped_decode_at_the_reference`).
-/
namespace Falcon.Props.C16
open Falcon Falcon.KeyCodec

/-- same lengths, headers, widths and modulus on both sides, for both variants -/
theorem format_parameters_agree :
    RefFormat.maxFgBits 9 = Gen.skWidthFG512 ∧ RefFormat.maxFgBits 10 = Gen.skWidthFG1024 ∧
    RefFormat.maxFGBits = Gen.skWidthCapF ∧
    Gen.pkLen = [(1 + 2 ^ 9 * 14 / 8, 512), (1 + 2 ^ 10 * 14 / 8, 1024)] ∧ Gen.pkWidth = 14 ∧
    Gen.skHeaderHi * 2 ^ Gen.skHeaderShift = 0x50 ∧ Gen.q = 12289 ∧
    1 + (2 ^ 9 * 6 + 7) / 8 + (2 ^ 9 * 6 + 7) / 8 + (2 ^ 9 * 8 + 7) / 8 = 1281 ∧
    1 + (2 ^ 10 * 5 + 7) / 8 + (2 ^ 10 * 5 + 7) / 8 + (2 ^ 10 * 8 + 7) / 8 = 2305 := by decide

/-- the signature framings differ only in the header byte (0x30|logn there, 0x50|logn here) and in the zero
    padding; relabelling is invertible on the two valid headers -/
theorem header_relabelling :
    (0x30 ||| (0x59 &&& 0x0f) = 0x39) ∧ (0x30 ||| (0x5a &&& 0x0f) = 0x3a) ∧
    (0x50 ||| (0x39 &&& 0x0f) = 0x59) ∧ (0x50 ||| (0x3a &&& 0x0f) = 0x5a) := by decide

/-- the documented gap: magnitudes 2048 … 5833 are within ⌊β²⌋ of Falcon-512 (so the specification and this
    library can accept them) but beyond the reference decoder's cap of 2047 -/
theorem reference_cap_gap : 2048 * 2048 ≤ 34034726 ∧ 5833 * 5833 ≤ 34034726 ∧ 5834 * 5834 > 34034726 := by decide

/-- the reserved value at width 8: the reference's `trim_i8_decode` refuses the one-field buffer `[0x80]` (the pattern
    10000000, −128), and this library's field decoder refuses the 8-bit encoding of −128.  That both sides accept, at every
    width and on every string, exactly the fields strictly inside the range is part of the two `reference_*_decoder_agrees`
    (`KeyCodec.signedField_eq_some_iff` is the field, `RefEq.trimI8Decode_eq` the reference's loop) -/
theorem reserved_value_rejected_by_both :
    RefFormat.trimI8Decode 0 8 [0x80] = none ∧ KeyCodec.deserializeField (KeyCodec.intBits 8 (-128)) = none := by decide

/-- **public keys**: the reference's import (`modq_decode` behind fixed length and header 0x00|logn) and
    `PublicKey::from_bytes` accept the same byte strings and return the same coefficients -/
theorem reference_public_key_decoder_agrees (logn N : Nat) (hN : (logn = 9 ∧ N = 512) ∨ (logn = 10 ∧ N = 1024))
    (pk : List Nat) (hwf : ∀ x ∈ pk, x < 256) :
    RefFormat.pkDecode logn pk = (match KeyCodec.pkFromBytes N pk with | .ok (.ok h) => some h | _ => none) :=
  RefEq.pkDecode_eq (Variant.of_logn hN) pk hwf

/-- **secret keys**: the reference's import (three `trim_i8_decode` calls behind fixed length and header
    0x50|logn) and the model of `SecretKey::from_bytes` accept the same byte strings; the reference's signed
    coefficients reduce to the residues this library stores -/
theorem reference_secret_key_decoder_agrees (logn N : Nat) (hN : (logn = 9 ∧ N = 512) ∨ (logn = 10 ∧ N = 1024))
    (sk : List Nat) (hwf : ∀ x ∈ sk, x < 256) :
    (RefFormat.skDecode logn sk).map (fun t => (t.1.map Zq.new, t.2.1.map Zq.new, t.2.2.map Zq.new)) =
      (match KeyCodec.skFromBytes N sk with | .ok (.ok t) => some t | _ => none) :=
  RefEq.skDecode_eq (Variant.of_logn hN) sk hwf

/-- the reference decodes every public key this library writes, to the same polynomial (it accepts exactly the strings
    `KeyCodec.PkEncodes` describes, and `to_bytes` writes one) -/
theorem reference_reads_our_public_keys (logn N : Nat) (hN : (logn = 9 ∧ N = 512) ∨ (logn = 10 ∧ N = 1024))
    (h : List Nat) (hl : h.length = N) (hq : ∀ x ∈ h, x < 12289) :
    RefFormat.pkDecode logn (KeyCodec.pkToBytes h) = some h := by
  have V := Variant.of_logn hN
  exact (RefEq.pkDecode_eq_some_iff V (pkToBytes_lt h)).mpr (pkToBytes_encodes V h hl hq)

/-- the reference decodes every secret key this library writes — every (f, g, F) inside the ranges the
    key-generation guards enforce — to the same residues, for both variants and both build modes (it accepts exactly the
    strings `KeyCodec.SkEncodes` describes, and `to_bytes` writes one) -/
theorem reference_reads_our_secret_keys (chk : Bool) (logn N : Nat) (hN : (logn = 9 ∧ N = 512) ∨ (logn = 10 ∧ N = 1024))
    (f g cF : List Int) (lf : f.length = N) (lg : g.length = N) (lF : cF.length = N)
    (hf : ∀ x ∈ f, x.natAbs ≤ 2 ^ ((if N = 1024 then 5 else 6) - 1) - 1)
    (hg : ∀ x ∈ g, x.natAbs ≤ 2 ^ ((if N = 1024 then 5 else 6) - 1) - 1)
    (hF : ∀ x ∈ cF, x.natAbs ≤ 127) :
    ∃ b, skToBytes chk f g cF = .ok b ∧
      (RefFormat.skDecode logn b).map (fun t => (t.1.map Zq.new, t.2.1.map Zq.new, t.2.2.map Zq.new)) =
        some (f.map Zq.new, g.map Zq.new, cF.map Zq.new) := by
  have V := Variant.of_logn hN
  obtain ⟨b, h1, hE⟩ := skToBytes_encodes chk V f g cF lf lg lF (fun v hv => .of_natAbs (hf v hv))
    (fun v hv => .of_natAbs (hg v hv)) (fun v hv => .of_natAbs (hF v hv))
  exact ⟨b, h1, by rw [(RefEq.skDecode_eq_some_iff V (skToBytes_lt chk f g cF b h1)).mpr hE]; rfl⟩

/-- **signatures, reference → Algorithm 18**: if the reference's `comp_decode` (transcribed from `codec.c`: 32-bit
    accumulator, pending-bit counter, inner unary loop with the `m > 2047` test, "-0" and trailing-bit checks) returns
    (x, v) on a byte string, then v bytes were consumed and, when the bytes after them are all zero (a padded signature),
    Algorithm 18 with the reference's cap decodes the whole string to the same vector — for every byte string, every logn -/
theorem reference_signature_decoder_sound (logn : Nat) (body : List Nat) (hb : ∀ b ∈ body, b < 256) (x : List Int) (v : Nat)
    (h : RefSig.compDecode logn body = some (x, v)) :
    ∃ used rest, body = used ++ rest ∧ v = used.length ∧
      ((∀ b ∈ rest, b = 0) → Spec.decompressRef 16 body (2 ^ logn) = some x) :=
  RefEq.compDecode_sound logn body hb x v h

/-- **signatures, Algorithm 18 → reference**: whatever Algorithm 18 with the reference's cap decodes, `comp_decode`
    accepts with the same vector, and every byte it leaves unread is zero (the reference's verifier itself accepts only
    when no byte is left unread: `RefSig.sigDecode`) -/
theorem reference_signature_decoder_complete (logn : Nat) (body : List Nat) (hb : ∀ b ∈ body, b < 256) (x : List Int)
    (h : Spec.decompressRef 16 body (2 ^ logn) = some x) :
    ∃ used rest, body = used ++ rest ∧ RefSig.compDecode logn body = some (x, used.length) ∧ ∀ b ∈ rest, b = 0 :=
  RefEq.compDecode_complete logn body hb x h

/-- **every reference signature body, zero-padded, decodes here to the same vector**: the byte-level model of this
    library's `decompress` (both build modes) accepts what `comp_decode` accepts -/
theorem reference_signatures_decode_here (chk : Bool) (logn : Nat) (body : List Nat) (hb : ∀ b ∈ body, b < 256)
    (x : List Int) (v : Nat) (h : RefSig.compDecode logn body = some (x, v)) (hz : ∀ b ∈ body.drop v, b = 0) :
    Codec.decompress chk body (2 ^ logn) = .ok (some x) := by
  obtain ⟨used, rest, hbody, hv, himp⟩ := RefEq.compDecode_sound logn body hb x v h
  have hrest : body.drop v = rest := by rw [hbody, hv]; exact List.drop_left' rfl
  rw [hrest] at hz
  have h16 := himp hz
  rw [RefEq.decompressRef_two_pow] at h16
  rw [Codec.decompress_eq_spec chk body hb (2 ^ logn) (Nat.pow_pos (by decide)), RefEq.decompressRef_two_pow,
    RefEq.decBits_cap_mono _ _ _ h16]

/-- **every signature body this library accepts whose coefficients are within the reference's range (|x_i| ≤ 2047)
    is accepted by the reference's decoder with the same vector**, the unread bytes being zero padding; coefficients
    between 2048 and 5833 are the documented divergence (`reference_cap_gap`) -/
theorem our_signatures_decode_at_the_reference (chk : Bool) (logn : Nat) (body : List Nat) (hb : ∀ b ∈ body, b < 256)
    (x : List Int) (h : Codec.decompress chk body (2 ^ logn) = .ok (some x)) (hx : ∀ c ∈ x, c.natAbs ≤ 2047) :
    ∃ used rest, body = used ++ rest ∧ RefSig.compDecode logn body = some (x, used.length) ∧ ∀ b ∈ rest, b = 0 := by
  rw [Codec.decompress_eq_spec chk body hb (2 ^ logn) (Nat.pow_pos (by decide)), Res.ok.injEq, RefEq.decompressRef_two_pow] at h
  apply RefEq.compDecode_complete logn body hb x
  rw [RefEq.decompressRef_two_pow]
  exact RefEq.decBits_cap_small _ _ _ h hx

/-- **"with the zero padding stripped, accepted by the reference"** — the property's wording for the decoder: every
    signature body this library accepts with coefficients in the reference's range splits into a prefix that the
    reference's decoder accepts as a whole (all bytes consumed, the same vector) and a suffix of zero bytes -/
theorem our_signatures_stripped_decode_at_the_reference (chk : Bool) (logn : Nat) (body : List Nat) (hb : ∀ b ∈ body, b < 256)
    (x : List Int) (h : Codec.decompress chk body (2 ^ logn) = .ok (some x)) (hx : ∀ c ∈ x, c.natAbs ≤ 2047) :
    ∃ v, v ≤ body.length ∧ RefSig.sigDecode logn (body.take v) = some x ∧ ∀ b ∈ body.drop v, b = 0 := by
  obtain ⟨used, rest, hbody, hdec, hz⟩ := our_signatures_decode_at_the_reference chk logn body hb x h hx
  refine ⟨used.length, by rw [hbody]; simp, RefEq.compDecode_strip logn body hb x used.length hdec, ?_⟩
  have : body.drop used.length = rest := by rw [hbody]; exact List.drop_left' rfl
  rw [this]; exact hz

/-- non-vacuity: the reference decodes the 2-coefficient body `[0x01, 0xC1, 0x40]` (+1, −2) consuming 3 bytes -/
example : RefSig.compDecode 1 [0x01, 0xC1, 0x40] = some ([1, -2], 3) := by decide

/-- what this side sends to the reference verifier is an honest signature of the hashed salt: the loop structure of
    `sign` as extracted (retry iff norm > bound; the salt buffer is filled once, before hashing, and not again on a
    compression retry) — the same pins as C01, because a signature that does not verify here cannot verify there -/
theorem signatures_sent_are_honest :
    Gen.signNormRetryGt = true ∧ Gen.signSaltFills = 1 ∧ Gen.signSaltWrites = 2 ∧ Gen.signSaltBeforeHash = true :=
  ⟨rfl, rfl, rfl, rfl⟩

/-- non-vacuity: both sides decode the all-zero Falcon-512 public key to the zero polynomial -/
example : RefFormat.pkDecode 9 (9 :: List.replicate 896 0) = some (List.replicate 512 0) := by decide +kernel

end Falcon.Props.C16

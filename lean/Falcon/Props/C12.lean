import Falcon.Lemmas.ZqExact
import Falcon.Lemmas.BatchInv
-- property-theorems-also: Falcon/Lemmas/ZqExact.lean

/-!
# C12 — arithmetic modulo q = 12289 is exact and canonical

The element-wise theorems (`add_exact`, `sub_exact`, `neg_exact`, `mul_exact`, `balanced_exact`, `new_canonical`, …)
are in `Falcon/Lemmas/ZqExact.lean` (same namespace, audited with this file).  Here the two that need the field
ZMod 12289 (`Falcon/Lemmas/BatchInv.lean`): inversion (`inverse_or_zero`) and batch inversion
(`Inverse::batch_inverse_or_zero` for `Felt`, Montgomery's trick with skipped zeros).
-/
namespace Falcon.Props.C12
open Falcon Falcon.Zq

/-- inversion returns the multiplicative inverse, canonical, and 0 for 0, without overflow: the chain computes
    a^(q−2) (`Batch.cast_invN_pow`), which inverts by Fermat's little theorem -/
theorem inv_exact (chk : Bool) (a : Nat) (ha : a < q) :
    ∃ i, inv chk a = .ok i ∧ i < q ∧ (if a = 0 then i = 0 else a * i % q = 1) :=
  ⟨invN a, inv_eq_invN chk a ha, Batch.invN_spec a ha⟩

/-- **batch inversion is element-wise inversion**: for every batch of canonical residues (any length, zeros
    anywhere) the two passes return exactly the inverse of each non-zero entry and 0 for each zero entry, and no
    intermediate product overflows, in both build modes -/
theorem batch_inverse_exact (chk : Bool) (xs : List Nat) (hx : ∀ x ∈ xs, x < q) :
    batchInv chk xs = .ok (xs.map invN) ∧
      ∀ x ∈ xs, invN x < q ∧ (if x = 0 then invN x = 0 else x * invN x % q = 1) :=
  ⟨Batch.batchInv_eq chk xs hx, fun x hxm => Batch.invN_spec x (hx x hxm)⟩

/-- non-vacuity: a batch with zeros in the middle and at the end -/
example : batchInv true [2, 0, 12288, 3, 0] = .ok [6145, 0, 12288, 8193, 0] := by decide +kernel

end Falcon.Props.C12

import Falcon.Lemmas.KeyBits

/-!
The reference's bit reader (PQClean `codec.c`): a 32-bit accumulator `acc`, a count `al` of pending bits and the unread
bytes.  `Reads acc al bytes S` says that what this state still has to deliver is the bit string `S`: the low `al` bits
of `acc` followed by the bits of `bytes`.  The three decoders (`modq_decode`, `trim_i8_decode`, `comp_decode`) only ever
push a byte and pop the top `k` pending bits; `Reads.push` and `Reads.pop` say what that does to `S`.  The pending bits
are `Spec.msb al acc` (`inv_iff`), and the bit list of a number splits at any position (`Spec.msb_add`): that is both.  Core Lean only.
-/
namespace Falcon.RefEq
open Falcon Falcon.KeyCodec
open Falcon.Spec (msb)

/-- the accumulator invariant: the low `al` bits of `acc` are the pending bits -/
def Inv (acc al : Nat) (pend : List Bool) : Prop := pend.length = al ∧ acc % 2 ^ al = bitsToNat pend

/-- what the reader in state (`acc`, `al`, `bytes`) still delivers -/
def Reads (acc al : Nat) (bytes : List Nat) (S : List Bool) : Prop := ∃ pend, Inv acc al pend ∧ S = pend ++ bitsOfBytes bytes

theorem inv_iff {acc al : Nat} {pend : List Bool} : Inv acc al pend ↔ pend = msb al acc := by
  constructor
  · rintro ⟨rfl, h⟩
    rw [← Spec.msb_mod, h, bitsToNat_eq, Spec.msb_bitsToNat]
  · rintro rfl
    exact ⟨Spec.length_msb .., by rw [bitsToNat_eq, Spec.bitsToNat_msb]⟩

theorem Reads.init (bytes : List Nat) : Reads 0 0 bytes (bitsOfBytes bytes) := ⟨[], inv_iff.mpr rfl, rfl⟩

theorem Reads.length {acc al : Nat} {bytes : List Nat} {S : List Bool} (h : Reads acc al bytes S) :
    S.length = al + 8 * bytes.length := by
  obtain ⟨pend, ⟨hl, _⟩, rfl⟩ := h
  rw [List.length_append, hl, bitsOfBytes_length]

/-- `acc = (acc << 8) | b`; the 32 bits of the accumulator hold the `al + 8` pending ones -/
theorem Reads.push {acc al b : Nat} {rest : List Nat} {S : List Bool} (h : Reads acc al (b :: rest) S) (hal : al ≤ 24)
    (hb : b < 256) : Reads ((acc * 256 + b) % 2 ^ 32) (al + 8) rest S := by
  obtain ⟨pend, hinv, rfl⟩ := h
  refine ⟨pend ++ byteBits b, inv_iff.mpr ?_, by rw [bitsOfBytes_cons, List.append_assoc]⟩
  rw [Spec.msb_mod_of_le (Nat.add_le_add_right hal 8 : al + 8 ≤ 32), Spec.msb_add, ← Spec.msb_mod 8, Nat.shiftRight_eq_div_pow,
    show (acc * 256 + b) / 2 ^ 8 = acc by rw [Nat.add_comm, Nat.add_mul_div_right _ _ (by decide), Nat.div_eq_of_lt hb, Nat.zero_add],
    show (acc * 256 + b) % 2 ^ 8 = b from (Nat.mul_add_mod' acc 256 b).trans (Nat.mod_eq_of_lt hb), inv_iff.mp hinv, byteBits_eq]

/-- `(acc >> (al - k)) & (2^k - 1)` with `al -= k` -/
theorem Reads.pop {acc al : Nat} {bytes : List Nat} {S : List Bool} (h : Reads acc al bytes S) (k : Nat) (hk : k ≤ al) :
    (acc / 2 ^ (al - k)) % 2 ^ k = bitsToNat (S.take k) ∧ Reads acc (al - k) bytes (S.drop k) := by
  obtain ⟨pend, hinv, rfl⟩ := h
  have hs := Spec.msb_add acc (al - k) k
  rw [Nat.add_sub_cancel' hk, ← inv_iff.mp hinv] at hs
  have hl : (msb k (acc >>> (al - k))).length = k := Spec.length_msb ..
  rw [hs, List.append_assoc, List.take_left' hl, List.drop_left' hl, bitsToNat_eq, Spec.bitsToNat_msb,
    Nat.shiftRight_eq_div_pow]
  exact ⟨rfl, _, inv_iff.mpr rfl, rfl⟩

/-- `acc_len--; (acc >> acc_len) & 1` -/
theorem Reads.pop_one {acc al : Nat} {bytes : List Nat} {S : List Bool} (h : Reads acc al bytes S) (hal : 1 ≤ al) :
    ∃ p S', S = p :: S' ∧ (acc / 2 ^ (al - 1)) % 2 = (if p then 1 else 0) ∧ Reads acc (al - 1) bytes S' := by
  obtain ⟨hbit, hR⟩ := h.pop 1 hal
  match S, h.length with
  | [], (hl : 0 = al + 8 * bytes.length) => omega
  | p :: S', _ => exact ⟨p, S', rfl, by simpa [bitsToNat] using hbit, hR⟩

end Falcon.RefEq

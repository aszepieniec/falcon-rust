import Falcon.Lemmas.ZpExact
import Falcon.Lemmas.ZpZMod
import Falcon.Lemmas.RingZEval

/-!
Residues modulo p of integer vectors; the Z_p negacyclic product of residues = the residues of the integer product; and
the first and the last of the three steps by which `babai_reduce_i32` multiplies integer polynomials (`U32Field::new` on
every coefficient; the product through the transform is `Zp.ntt_mul` of `ZpZMod`; `balanced_value`), each with the value it returns.
-/
namespace Falcon.Zp
open Falcon

/-- an integer vector as canonical residues modulo p -/
def toZp (l : List Int) : List Nat := l.map fun v => (v % 1073754113).toNat

theorem toZp_lt (l : List Int) : ∀ x ∈ toZp l, x < 1073754113 := List.forall_mem_map.mpr fun v _ => by omega

theorem map_cast_toZp (l : List Int) : (toZp l).map (Nat.cast : Nat → Fp) = l.map (Int.cast : Int → Fp) := by
  rw [toZp, List.map_map]
  exact List.map_congr_left fun v _ => ModNtt.cast_emod_toNat 1073754113 v

theorem negacyc_toZp (n : Nat) (k f : List Int) :
    negacyc n (toZp k) (toZp f) = toZp (RingZ.negacyc n k f) := by
  rw [negacyc_eq]
  apply ModNtt.map_cast_inj _ (ModNtt.negacyc_lt _ _ _ _) (toZp_lt _)
  rw [ModNtt.cast_negacyc, map_cast_toZp, map_cast_toZp, map_cast_toZp, RingZ.map_negacyc]

theorem mapM_new (chk : Bool) (k : List Int) (h : ∀ x ∈ k, -1073754113 < x ∧ x < 1073754113) :
    k.mapM (new chk) = .ok (toZp k) :=
  Res.mapM_ok fun x hx => new_exact chk x (h x hx).1 (h x hx).2

/-- 536877056 = (p − 1)/2 -/
theorem mapM_balanced (chk : Bool) (l : List Int) (h : ∀ x ∈ l, -536877056 ≤ x ∧ x ≤ 536877056) :
    (toZp l).mapM (balanced chk) = .ok l := by
  rw [Res.mapM_ok fun a ha => balanced_exact chk a (toZp_lt _ a ha), toZp, List.map_map]
  refine congrArg Res.ok ((List.map_congr_left fun x hx => ?_).trans (List.map_id l))
  have := h x hx
  simp only [Function.comp, id]
  rw [Int.toNat_of_nonneg (Int.emod_nonneg x (by decide))]
  omega

end Falcon.Zp

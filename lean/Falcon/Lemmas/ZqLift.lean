import Falcon.Lemmas.NttZMod
import Falcon.Lemmas.ZqBasic
import Falcon.Lemmas.RingZEval

/-!
From ℤ to Z_q: `toZq` reduces an integer vector to canonical residues, and evaluating the residues at a point of Z_q is
the integer evaluation `RingZ.ev` there (`evalL_toZq`); the residue product is multiplicative at every root of Xⁿ+1
(`evalL_cast_negacyc`), so a relation h ⋆ a = b between residue vectors reads h(ρ)·a(ρ) = b(ρ) there (`ev_of_negacyc`).
-/
namespace Falcon.Ntt
open Falcon

/-- an integer vector as canonical residues modulo q -/
def toZq (l : List Int) : List Nat := l.map Zq.new

theorem toZq_length {l : List Int} {n : Nat} (h : l.length = n) : (toZq l).length = n := (List.length_map _).trans h

theorem toZq_lt (l : List Int) : ∀ x ∈ toZq l, x < 12289 := by
  intro x hx
  obtain ⟨v, _, rfl⟩ := List.mem_map.mp hx
  exact Zq.new_lt v

theorem evalL_cast_negacyc {n : Nat} (a b : List Nat) (hb : b.length = n) (ρ : Fq) (hρ : ρ ^ n = -1) :
    NttG.evalL ((negacyc n a b).map Nat.cast) ρ = NttG.evalL (a.map Nat.cast) ρ * NttG.evalL (b.map Nat.cast) ρ := by
  rw [negacyc_eq, ModNtt.cast_negacyc]
  exact NttG.evalL_negacyc_of_pow n ρ hρ _ _ ((List.length_map _).trans hb)

theorem evalL_toZq (l : List Int) (ρ : Fq) : NttG.evalL ((toZq l).map Nat.cast) ρ = RingZ.ev l ρ := by
  rw [toZq, List.map_map]
  exact congrArg (NttG.evalL · ρ) (List.map_congr_left fun v _ => ModNtt.cast_emod_toNat 12289 v)

theorem ev_natlist (cc : List Nat) (ρ : Fq) :
    RingZ.ev (cc.map fun (x : Nat) => (x : Int)) ρ = NttG.evalL (cc.map Nat.cast) ρ := by
  rw [RingZ.ev, List.map_map]
  exact congrArg (NttG.evalL · ρ) (List.map_congr_left fun x _ => Int.cast_natCast x)

theorem ev_of_negacyc {n : Nat} {h : List Nat} {a b : List Int} (la : a.length = n)
    (hk : negacyc n h (toZq a) = toZq b) (ρ : Fq) (hρ : ρ ^ n = -1) :
    NttG.evalL (h.map Nat.cast) ρ * RingZ.ev a ρ = RingZ.ev b ρ := by
  rw [← evalL_toZq b, ← hk, evalL_cast_negacyc h _ (toZq_length la) ρ hρ, evalL_toZq]

end Falcon.Ntt

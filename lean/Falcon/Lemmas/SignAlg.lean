import Falcon.Lemmas.ZqLift
import Falcon.Model.SignSkel

/-!
About the model of `sign`: the squared norm bounds the square of each coefficient, s1 and s2 at a root of Xⁿ+1, what
`signWith` has tested when it returns bytes, and the coset identity on coefficient lists — an identity between residue
vectors, checked root by root in the field (`eq_of_eval_eq`, `evalL_toZq`).
-/

namespace Falcon.SignSkel
open Falcon

theorem squares_nonneg (l : List Int) : ∀ z ∈ l.map (fun i => i * i), 0 ≤ z := fun z hz => by
  obtain ⟨w, _, rfl⟩ := List.mem_map.mp hz
  exact mul_self_nonneg w

theorem normSq_nonneg (l : List Int) : 0 ≤ normSq l := List.sum_nonneg (squares_nonneg l)

theorem sq_le_normSq (l : List Int) (x : Int) (hx : x ∈ l) : x * x ≤ normSq l :=
  List.single_le_sum (squares_nonneg l) _ (List.mem_map_of_mem (f := fun i => i * i) hx)

-- `SignSkel.addL` and `negL` are `RingZ`'s by `rfl`, so the `RingZ` lemmas apply (after a `show` where a `rw` has to see them)
section
variable {n : Nat} {a b : List Int} (la : a.length = n) (lb : b.length = n)
include la lb

/-- z0⋆a + z1⋆b, the part s1 and s2 share -/
theorem comb_length (z0 z1 : List Int) : (RingZ.addL (RingZ.negacyc n z0 a) (RingZ.negacyc n z1 b)).length = n :=
  RingZ.addL_length (RingZ.negacyc_length n z0 a la) (RingZ.negacyc_length n z1 b lb)

theorem ev_comb {R : Type} [CommRing R] (z0 z1 : List Int) (ρ : R) (hρ : ρ ^ n = -1) :
    RingZ.ev (RingZ.addL (RingZ.negacyc n z0 a) (RingZ.negacyc n z1 b)) ρ =
      RingZ.ev z0 ρ * RingZ.ev a ρ + RingZ.ev z1 ρ * RingZ.ev b ρ := by
  rw [RingZ.ev_addL (RingZ.negacyc_length n z0 a la) (RingZ.negacyc_length n z1 b lb),
    RingZ.ev_negacyc n z0 a la ρ hρ, RingZ.ev_negacyc n z1 b lb ρ hρ]

theorem s2Of_length (z0 z1 : List Int) : (s2Of n a b z0 z1).length = n :=
  (RingZ.negL_length _).trans (comb_length la lb z0 z1)

theorem ev_s2Of {R : Type} [CommRing R] (z0 z1 : List Int) (ρ : R) (hρ : ρ ^ n = -1) :
    RingZ.ev (s2Of n a b z0 z1) ρ = -(RingZ.ev z0 ρ * RingZ.ev a ρ + RingZ.ev z1 ρ * RingZ.ev b ρ) :=
  (RingZ.ev_negL _ ρ).trans (congrArg Neg.neg (ev_comb la lb z0 z1 ρ hρ))

variable {c : List Nat} (lc : c.length = n)
include lc

theorem s1Of_length (z0 z1 : List Int) : (s1Of n a b z0 z1 c).length = n :=
  RingZ.addL_length ((List.length_map _).trans lc) (comb_length la lb z0 z1)

theorem ev_s1Of {R : Type} [CommRing R] (z0 z1 : List Int) (ρ : R) (hρ : ρ ^ n = -1) :
    RingZ.ev (s1Of n a b z0 z1 c) ρ =
      RingZ.ev (c.map fun (x : Nat) => (x : Int)) ρ + (RingZ.ev z0 ρ * RingZ.ev a ρ + RingZ.ev z1 ρ * RingZ.ev b ρ) := by
  show RingZ.ev (RingZ.addL _ (RingZ.addL _ _)) ρ = _
  rw [RingZ.ev_addL ((List.length_map _).trans lc) (comb_length la lb z0 z1), ev_comb la lb z0 z1 ρ hρ]

end

/-- `signWith` returns bytes only past the two retry tests of `sign` -/
theorem signWith_ok {chk : Bool} {N : Nat} {f g cF cG : List Int} {msg salt : List Nat} {z0 z1 : List Int} {sig : List Nat}
    (h : signWith chk N f g cF cG msg salt z0 z1 = .ok (.ok sig)) :
    ∃ P body, Verify.params N = .ok P ∧
      normSq (s1Of N g cG z0 z1 (Hash.hashToPoint (salt ++ msg) N)) + normSq (s2Of N f cF z0 z1) ≤ (P.sigBound : Int) ∧
      Codec.compress (s2Of N f cF z0 z1) ((if N = 512 then Gen.sigBytelen512 else Gen.sigBytelen1024) - Gen.signBudgetSub)
        = .ok (some body) ∧
      sig = KeyCodec.sigToBytes salt body := by
  obtain ⟨P, hP, h⟩ := Res.bind_eq_ok.mp h
  rcases ite_eq_iff.mp h with ⟨-, h⟩ | ⟨hb, h⟩
  · cases h
  obtain ⟨_ | body, hc, h⟩ := Res.bind_eq_ok.mp h
  · cases h
  · exact ⟨P, body, hP, Int.not_lt.mp hb, hc, (Except.ok.inj (Res.ok.inj h)).symm⟩

end Falcon.SignSkel

namespace Falcon.Ntt
open Falcon

/-- the coset identity: for a hashed point cc and a sampler outcome (z0, z1), the vector c − s2⋆h that `verify` computes
    is s1 reduced modulo q -/
theorem coset_lists (d : Nat) (hd : d ≤ 10) (f g cF cG z0 z1 : List Int) (h cc : List Nat)
    (lf : f.length = 2 ^ d) (lg : g.length = 2 ^ d) (lF : cF.length = 2 ^ d) (lG : cG.length = 2 ^ d)
    (lh : h.length = 2 ^ d) (lc : cc.length = 2 ^ d)
    (hk1 : negacyc (2 ^ d) h (toZq f) = toZq g) (hk2 : negacyc (2 ^ d) h (toZq cF) = toZq cG) :
    List.zipWith subq cc (negacyc (2 ^ d) (toZq (SignSkel.s2Of (2 ^ d) f cF z0 z1)) h) =
      toZq (SignSkel.s1Of (2 ^ d) g cG z0 z1 cc) := by
  have lneg := negacyc_length (2 ^ d) (toZq (SignSkel.s2Of (2 ^ d) f cF z0 z1)) h lh
  refine eq_of_eval_eq d hd _ _ (by simp [lc, lneg]) (toZq_length (SignSkel.s1Of_length lg lG lc z0 z1))
    (ModNtt.subL_lt (m := 12289) _ _) (toZq_lt _) fun ρ hρ => ?_
  have hp := NttG.root_pow (tables.mono hd).sq hρ
  rw [subL_eq, ModNtt.cast_subL, NttG.evalL_sub _ _ (by simp [lc, lneg]),
    evalL_cast_negacyc _ h lh ρ hp, evalL_toZq, evalL_toZq,
    SignSkel.ev_s2Of lf lF z0 z1 ρ hp, SignSkel.ev_s1Of lg lG lc z0 z1 ρ hp, ev_natlist]
  linear_combination (RingZ.ev z0 ρ) * ev_of_negacyc lf hk1 ρ hp + (RingZ.ev z1 ρ) * ev_of_negacyc lF hk2 ρ hp

end Falcon.Ntt

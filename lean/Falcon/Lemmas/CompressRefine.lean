import Falcon.Lemmas.CodecSpec
import Falcon.Model.Codec

/-!
Refinement: the byte-level model of `encoding.rs::compress` (four OR-writes per coefficient into a zeroed buffer,
the last coefficient treated separately) computes Algorithm 17 (`Spec.compressRef`: the bit list, padded, packed)
for every coefficient vector and every byte length.  Buffer and bit stream are compared bit by bit, each bit an OR of
bit lists laid down at their positions (`placed`).  Core Lean only.
-/
namespace Falcon.Codec
open Falcon Falcon.Spec

/-- bit `i` of a bit list; `false` beyond the end -/
def sbit (S : List Bool) (i : Nat) : Bool := S[i]?.getD false

/-- bit `i` of the bit list `T` laid down at position `p`; `false` outside it -/
def placed (p : Nat) (T : List Bool) (i : Nat) : Bool := decide (p ≤ i) && sbit T (i - p)

theorem sbit_append (S T : List Bool) (i : Nat) : sbit (S ++ T) i = (sbit S i || placed S.length T i) := by
  unfold placed sbit
  by_cases h : i < S.length
  · rw [List.getElem?_append_left h, decide_eq_false (by omega), Bool.false_and, Bool.or_false]
  · rw [List.getElem?_append_right (by omega), List.getElem?_eq_none (by omega : S.length ≤ i), decide_eq_true (by omega)]
    rfl

theorem placed_append (p : Nat) (S T : List Bool) (i : Nat) :
    placed p (S ++ T) i = (placed p S i || placed (p + S.length) T i) := by
  unfold placed
  rw [sbit_append, Bool.and_or_distrib_left]
  unfold placed
  by_cases h : p ≤ i
  · rw [decide_eq_true h, Nat.sub_add_eq, Bool.true_and, Bool.true_and,
      (decide_eq_decide.mpr (by omega) : decide (p + S.length ≤ i) = decide (S.length ≤ i - p))]
  · simp [h, show ¬ p + S.length ≤ i by omega]

theorem placed_replicate_false (p k i : Nat) : placed p (List.replicate k false) i = false := by
  unfold placed sbit
  rw [List.getElem?_replicate]; split <;> simp

theorem placed_singleton_true (p i : Nat) : placed p [true] i = decide (i = p) := by
  unfold placed sbit
  by_cases h : i = p
  · subst h; simp
  · by_cases h2 : p ≤ i
    · rw [List.getElem?_eq_none (by simp; omega)]; simp [h]
    · simp [h, h2]

theorem sbit_unpack (x : List Nat) (i : Nat) : sbit (unpack x) i = bitOf x i := by
  unfold sbit
  by_cases h : i < 8 * x.length
  · rw [unpack_get x i h]; rfl
  · rw [List.getElem?_eq_none (by rw [unpack_length]; omega), bitOf, List.getElem?_eq_none (by omega)]
    exact (Nat.zero_testBit _).symm

theorem ext_sbit {l l' : List Bool} (hl : l.length = l'.length) (h : ∀ i, sbit l i = sbit l' i) : l = l' :=
  List.ext_getElem hl fun i h1 h2 => by
    have := h i
    rwa [sbit, sbit, List.getElem?_eq_getElem h1, List.getElem?_eq_getElem h2] at this

theorem placed_byte (a v i : Nat) :
    placed (8 * a) (msb 8 v) i = (decide (i / 8 = a) && v.testBit (7 - i % 8)) := by
  obtain ⟨c, r, hr, rfl⟩ : ∃ c r, r < 8 ∧ i = 8 * c + r := ⟨i / 8, i % 8, Nat.mod_lt _ (by decide), (Nat.div_add_mod i 8).symm⟩
  rw [Nat.mul_add_div (by decide), Nat.mul_add_mod, Nat.div_eq_of_lt hr, Nat.mod_eq_of_lt hr, Nat.add_zero, placed, sbit]
  by_cases hca : c = a
  · subst hca
    rw [decide_eq_true (Nat.le_add_right ..), Nat.add_sub_cancel_left, getElem?_msb v 8 r hr]; simp
  · by_cases h : 8 * a ≤ 8 * c + r
    · rw [List.getElem?_eq_none (by rw [length_msb]; omega)]; simp [hca]
    · simp [h, hca]

theorem orAt_spec (x : List Nat) (hx : WF x) (j v : Nat) (hj : j < x.length) (hv : v < 256) :
    ∃ y, orAt x j v = .ok y ∧ y.length = x.length ∧ WF y ∧ ∀ i, bitOf y i = (bitOf x i || placed (8 * j) (msb 8 v) i) := by
  have hget : x[j]? = some x[j] := List.getElem?_eq_getElem hj
  refine ⟨x.set j (x[j] ||| v), by simp [orAt, idx, hget], by simp, ?_, ?_⟩
  · intro b hb
    rcases List.mem_or_eq_of_mem_set hb with h | h
    · exact hx b h
    · subst h
      exact Nat.or_lt_two_pow (n := 8) (hx _ (List.getElem_mem hj)) hv
  · intro i
    simp only [placed_byte, bitOf, List.getElem?_set]
    by_cases hij : j = i / 8
    · subst hij
      simp [hj, Nat.testBit_or]
    · have : ¬ i / 8 = j := fun h => hij h.symm
      simp [hij, this]

theorem orAt_zero (x : List Nat) (j : Nat) (hj : j < x.length) : orAt x j 0 = .ok x := by
  simp [orAt, idx, List.getElem?_eq_getElem hj]

/-- the two bytes written for `v` at bit offset `m` are the 16-bit word `v <<< (8 - m)` -/
theorem msb_chunk (m s v : Nat) (hs : m + s = 8) (hv : v < 256) :
    msb 8 (v >>> m) ++ msb 8 ((v <<< s) % 256) = List.replicate m false ++ (msb 8 v ++ List.replicate s false) := by
  have e : (v <<< s) >>> 8 = v >>> m := by rw [← hs, Nat.add_comm, Nat.shiftRight_add, Nat.shiftLeft_shiftRight]
  rw [← e, (rfl : (256 : Nat) = 2 ^ 8), msb_mod, ← msb_add, (by omega : 8 + 8 = (m + 8) + s), msb_add, msb_shiftLeft,
    Nat.shiftLeft_shiftRight, msb_add, Nat.shiftRight_eq_zero v 8 hv, msb_zero, List.append_assoc]

theorem chunk_split (p v i : Nat) (hv : v < 256) :
    (placed (8 * (p / 8)) (msb 8 (v >>> (p % 8))) i || placed (8 * (p / 8 + 1)) (msb 8 ((v <<< (8 - p % 8)) % 256)) i) =
      placed p (msb 8 v) i := by
  have h := placed_append (8 * (p / 8)) (msb 8 (v >>> (p % 8))) (msb 8 ((v <<< (8 - p % 8)) % 256)) i
  rw [length_msb] at h
  rw [Nat.mul_succ, ← h, msb_chunk _ _ v (by omega) hv, placed_append, placed_append, placed_replicate_false,
    placed_replicate_false, List.length_replicate, Bool.false_or, Bool.or_false, Nat.div_add_mod]

theorem stop_carry (e : Nat) : (128 <<< (8 - e % 8)) % 256 = 0 :=
  (by decide : ∀ m : Fin 8, (128 <<< (8 - m.val)) % 256 = 0) ⟨e % 8, Nat.mod_lt _ (by decide)⟩

/-- the terminating one is the byte `128` written at its bit offset; nothing is carried -/
theorem stop_bit (e i : Nat) : placed (8 * (e / 8)) (msb 8 (128 >>> (e % 8))) i = decide (i = e) := by
  have h := chunk_split e 128 i (by decide)
  rw [stop_carry, msb_zero, placed_replicate_false, Bool.or_false] at h
  rw [h, show msb 8 128 = [true] ++ List.replicate 7 false from rfl, placed_append, placed_replicate_false,
    placed_singleton_true, Bool.or_false]

theorem writeCoef_spec (x : List Nat) (hx : WF x) (L counter length coef : Nat) (last : Bool)
    (hL : x.length = L) (hcoef : coef < 256) (hlen : 9 ≤ length)
    (hfit : if last then counter + length ≤ 8 * L else counter + length + 9 ≤ 8 * L) :
    ∃ y, writeCoef x L counter length coef last = .ok (some y) ∧ y.length = L ∧ WF y ∧
      ∀ i, bitOf y i = (bitOf x i || placed counter (msb 8 coef) i || decide (i = counter + length - 1)) := by
  subst hL
  -- the bytes written: the two that the eight bits of `coef` reach into, the one with the terminating one (bit
  -- counter + length − 1) and, unless the coefficient is the last, the byte after it; `hfit` puts them inside the buffer
  -- (for a non-last coefficient it asks for 9 more bits, the least the next coefficient takes: that is the byte after)
  have hi : counter / 8 + 1 < x.length ∧ (counter + length - 1) / 8 < x.length ∧
      (last = false → (counter + length - 1) / 8 + 1 < x.length) := by
    cases last <;> simp at hfit ⊢ <;> omega
  obtain ⟨y1, h1, l1, w1, b1⟩ := orAt_spec x hx (counter / 8) (coef >>> (counter % 8)) (Nat.lt_of_succ_lt hi.1)
    (Nat.lt_of_le_of_lt (Nat.shiftRight_le _ _) hcoef)
  obtain ⟨y2, h2, l2, w2, b2⟩ := orAt_spec y1 w1 (counter / 8 + 1) ((coef <<< (8 - counter % 8)) % 256) (l1 ▸ hi.1)
    (Nat.mod_lt _ (by decide))
  obtain ⟨y3, h3, l3, w3, b3⟩ := orAt_spec y2 w2 ((counter + length - 1) / 8) (128 >>> ((counter + length - 1) % 8))
    (l2 ▸ l1 ▸ hi.2.1) (Nat.lt_of_le_of_lt (Nat.shiftRight_le _ _) (by decide))
  have l : y3.length = x.length := l3.trans (l2.trans l1)
  refine ⟨y3, ?_, l, w3, fun i => by rw [b3, b2, b1, stop_bit, Bool.or_assoc (bitOf x i), chunk_split _ _ _ hcoef]⟩
  -- the fourth write, where it happens, ORs a zero
  simp only [writeCoef, h1, h2, h3, Res.bind_ok, stop_carry]
  cases last
  · simp [orAt_zero y3 _ (l ▸ hi.2.2 rfl)]
  · by_cases hc : (counter + length - 1) / 8 + 1 < x.length
    · simp [hc, orAt_zero y3 _ (l ▸ hc)]
    · simp [hc]

theorem low7_length (a : Nat) : (low7 a).length = 7 := rfl

theorem compressCoefficient_fst (c : Int) : (compressCoefficient c).1 = 9 + c.natAbs / 128 := by
  simp only [compressCoefficient]; omega

theorem compressCoefficient_snd_lt (c : Int) : (compressCoefficient c).2 < 256 := by
  simp only [compressCoefficient]; split <;> omega

theorem encCoef_eq (c : Int) :
    encCoef c = msb 8 (compressCoefficient c).2 ++ (List.replicate (c.natAbs / 128) false ++ [true]) := by
  have e : (compressCoefficient c).2 = 2 ^ 7 * (if c < 0 then 1 else 0) + c.natAbs % 128 := by
    simp only [compressCoefficient]; split <;> rfl
  rw [encCoef, low7_eq, e, msb_two_pow_mul_add 7 _ _ (Nat.mod_lt _ (by decide)), List.append_assoc]
  by_cases h : c < 0 <;> simp [h]

theorem length_encCoef_eq_fst (c : Int) : (encCoef c).length = (compressCoefficient c).1 := by
  rw [length_encCoef, compressCoefficient_fst]

/-- the buffer holds the bits written so far and zeros after them -/
def Written (L : Nat) (bytes : List Nat) (S : List Bool) : Prop :=
  bytes.length = L ∧ WF bytes ∧ ∀ i, bitOf bytes i = sbit S i

theorem writeCoef_written (L : Nat) (bytes : List Nat) (S : List Bool) (c : Int) (last : Bool) (h : Written L bytes S)
    (hfit : if last then S.length + (encCoef c).length ≤ 8 * L else S.length + (encCoef c).length + 9 ≤ 8 * L) :
    ∃ y, writeCoef bytes L S.length (compressCoefficient c).1 (compressCoefficient c).2 last = .ok (some y) ∧
      Written L y (S ++ encCoef c) := by
  obtain ⟨hl, hw, hb⟩ := h
  rw [length_encCoef_eq_fst] at hfit
  obtain ⟨y, hy, yl, yw, yb⟩ := writeCoef_spec bytes hw L S.length _ _ last hl (compressCoefficient_snd_lt c)
    (by rw [compressCoefficient_fst]; exact Nat.le_add_right 9 _) hfit
  -- the terminating one is the last of the 9 + k bits
  have e : ∀ k, S.length + (9 + k) - 1 = S.length + 8 + k := fun k => by omega
  refine ⟨y, hy, yl, yw, fun i => ?_⟩
  rw [yb, hb, encCoef_eq, sbit_append, placed_append, placed_append, placed_replicate_false, placed_singleton_true,
    length_msb, List.length_replicate, Bool.false_or, Bool.or_assoc, compressCoefficient_fst,
    e]

theorem writeMid_spec (L : Nat) : ∀ (xs : List Int) (bytes : List Nat) (S : List Bool), Written L bytes S →
    S.length + (encBits xs).length + 9 ≤ 8 * L →
    ∃ y, writeMid L (xs.map compressCoefficient) bytes S.length = .ok (y, S.length + (encBits xs).length) ∧
      Written L y (S ++ encBits xs) := by
  intro xs
  induction xs with
  | nil =>
    intro bytes S h _
    exact ⟨bytes, by simp [writeMid, encBits], by simpa [encBits] using h⟩
  | cons c xs ih =>
    intro bytes S h hfit
    rw [encBits_cons, List.length_append] at hfit
    obtain ⟨y, hy, hinv⟩ := writeCoef_written L bytes S c false h (by simp; omega)
    obtain ⟨z, hz, hinv2⟩ := ih y (S ++ encCoef c) hinv (by rw [List.length_append]; omega)
    refine ⟨z, ?_, ?_⟩
    · simp only [List.map_cons, writeMid, hy, Res.bind_ok]
      rw [List.length_append, length_encCoef_eq_fst] at hz
      rw [hz, encBits_cons, List.length_append, length_encCoef_eq_fst, Nat.add_assoc]
    · rw [encBits_cons, ← List.append_assoc]; exact hinv2

theorem sum_lengths_eq (v : List Int) : ((v.map compressCoefficient).map (·.1)).sum = (encBits v).length := by
  induction v with
  | nil => rfl
  | cons c xs ih =>
    rw [List.map_cons, List.map_cons, List.sum_cons, ih, encBits_cons, List.length_append, length_encCoef_eq_fst]

theorem written_zero (L : Nat) : Written L (List.replicate L 0) [] := by
  refine ⟨List.length_replicate, fun b hb => ?_, fun i => ?_⟩
  · rw [List.eq_of_mem_replicate hb]; decide
  · rw [bitOf, List.getElem?_replicate]
    split <;> exact Nat.zero_testBit _

theorem written_final (L : Nat) (y : List Nat) (S : List Bool) (h : Written L y S) (hS : S.length ≤ 8 * L) :
    y = pack (S ++ List.replicate (8 * L - S.length) false) := by
  obtain ⟨hl, hw, hb⟩ := h
  have hu : unpack y = S ++ List.replicate (8 * L - S.length) false :=
    ext_sbit (by rw [unpack_length, List.length_append, List.length_replicate]; omega) fun i => by
      rw [sbit_unpack, hb, sbit_append, placed_replicate_false, Bool.or_false]
  rw [← hu, pack_unpack y hw]

/-- **compress refines Algorithm 17**: for every coefficient vector and every byte length -/
theorem compress_eq_spec (v : List Int) (L : Nat) : compress v L = .ok (compressRef v L) := by
  rw [compress, compressRef, compressBits]
  simp only [sum_lengths_eq, Nat.mul_comm L 8]
  by_cases hfit : (encBits v).length > 8 * L
  · rw [if_pos hfit, if_pos (Or.inr hfit)]; rfl
  · rw [if_neg hfit]
    rcases List.eq_nil_or_concat v with rfl | ⟨init, c, rfl⟩
    · rfl
    · rw [List.concat_eq_append] at hfit ⊢
      have hbits : encBits (init ++ [c]) = encBits init ++ encCoef c := by simp [encBits]
      rw [if_neg (by simp [hfit]), hbits]
      rw [hbits, List.length_append] at hfit
      have h9 : 9 ≤ (encCoef c).length := by rw [length_encCoef]; exact Nat.le_add_right 9 _
      obtain ⟨y, hy, hinv⟩ := writeMid_spec L init (List.replicate L 0) [] (written_zero L) (by simp; omega)
      rw [List.length_nil, Nat.zero_add] at hy
      rw [List.nil_append] at hinv
      obtain ⟨z, hz, hinv2⟩ := writeCoef_written L y (encBits init) c true hinv (by simp; omega)
      -- on `init ++ [c]` the code's `getLast?` is the pair of c and its `dropLast` the pairs of `init`: what it runs is
      -- `writeMid` over `init` (`hy`), then the last `writeCoef` (`hz`)
      simp only [List.map_append, List.map_cons, List.map_nil, List.getLast?_append, List.getLast?_singleton,
        List.dropLast_concat, Option.some_or, hy, Res.bind_ok]
      rw [hz, written_final L z _ hinv2 (by rw [List.length_append]; omega)]
      rfl

end Falcon.Codec

import Falcon.Lemmas.KeyFields
import Falcon.Lemmas.ZqBasic

/-!
The three byte formats.  `Variant logn N wf` names the two parameter sets; everything else is stated for a variable
variant and a variable width.  `SkEncodes` / `PkEncodes` / `SigEncodes` say what an encoding is (the key formats for
either implementation); `skEncodes_iff V`, `pkEncodes_iff V`, `sigEncodes_cons_iff` open them.  For each `from_bytes` one
statement (`*_decodes`, the one lemma that unfolds that decoder) says that it never panics and returns `Ok x` exactly for
the `x` that the string encodes; `*ToBytes_eq` say what `to_bytes` writes.  Totality, strictness, rejection and the round
trip are read off these (`Decodes.total`, `.ok_iff`, `.rejects`); which `Err` a rejected string gets is not in them (the
error-code theorems of Props/C06 walk the first checks of the decoders again).  Core Lean only.
-/
namespace Falcon.KeyCodec
open Falcon

/-- a `from_bytes` in one statement: `m` does not panic, and it returns `Ok x` exactly for the `x` with `P x` -/
def Decodes {ε α : Type} (m : Res (Except ε α)) (P : α → Prop) : Prop := ∃ r, m = .ok r ∧ ∀ x, r = .ok x ↔ P x

namespace Decodes
variable {ε α : Type} {m k : Res (Except ε α)} {P Q : α → Prop}

theorem total (h : Decodes m P) : ∃ r, m = .ok r := h.imp fun _ h => h.1

theorem ok_iff (h : Decodes m P) {x : α} : m = .ok (.ok x) ↔ P x := by
  obtain ⟨r, rfl, hr⟩ := h
  rw [Res.ok.injEq, hr]

theorem rejects (h : Decodes m P) (hP : ∀ x, ¬ P x) : ∃ e, m = .ok (.error e) := by
  obtain ⟨r, rfl, hr⟩ := h
  cases r with
  | error e => exact ⟨e, rfl⟩
  | ok x => exact absurd ((hr x).mp rfl) (hP x)

theorem congr (h : Decodes m P) (hPQ : ∀ x, P x ↔ Q x) : Decodes m Q :=
  h.imp fun _ h => ⟨h.1, fun x => (h.2 x).trans (hPQ x)⟩

theorem error (e : ε) (h : ∀ x, ¬ P x) : Decodes (pure (.error e)) P := ⟨_, rfl, fun x => iff_of_false nofun (h x)⟩

theorem ok (a : α) (h : ∀ x, P x ↔ a = x) : Decodes (pure (.ok a) : Res (Except ε α)) P :=
  ⟨_, rfl, fun x => by rw [h, Except.ok.injEq]⟩

theorem guard {c : Prop} [Decidable c] (e : ε) (hc : ∀ x, P x → ¬ c) (hk : ¬ c → Decodes k P) :
    Decodes (if c then pure (.error e) else k) P := by
  by_cases h : c
  · rw [if_pos h]; exact error e fun x hx => hc x hx h
  · rw [if_neg h]; exact hk h

theorem guard_ne {β : Type} [DecidableEq β] {a b : β} (e : ε) (hc : ∀ x, P x → a = b) (hk : a = b → Decodes k P) :
    Decodes (if a ≠ b then pure (.error e) else k) P :=
  guard e (fun x hx => Decidable.not_not.mpr (hc x hx)) fun h => hk (Decidable.not_not.mp h)

end Decodes

/-- Falcon-512 and Falcon-1024: log₂ n, n and the width of the f, g fields of the secret key -/
def Variant (logn N wf : Nat) : Prop := (logn = 9 ∧ N = 512 ∧ wf = 6) ∨ (logn = 10 ∧ N = 1024 ∧ wf = 5)

theorem Variant.f512 : Variant 9 512 6 := .inl ⟨rfl, rfl, rfl⟩
theorem Variant.f1024 : Variant 10 1024 5 := .inr ⟨rfl, rfl, rfl⟩

theorem lookup2 (a x b y k v : Nat) : [(a, x), (b, y)].lookup k = some v ↔ (k = a ∧ v = x) ∨ (k ≠ a ∧ k = b ∧ v = y) := by
  have e1 : (k == a) = decide (k = a) := rfl
  have e2 : (k == b) = decide (k = b) := rfl
  simp only [List.lookup, e1, e2]
  by_cases h1 : k = a
  · subst h1; simp [eq_comm]
  · by_cases h2 : k = b
    · subst h2; simp [h1, eq_comm]
    · simp [h1, h2]

namespace Variant
variable {logn N wf : Nat} (V : Variant logn N wf)
include V

theorem two_pow : 2 ^ logn = N := by rcases V with ⟨rfl, rfl, _⟩ | ⟨rfl, rfl, _⟩ <;> rfl
theorem pos : 0 < N := by rw [← V.two_pow]; exact Nat.pow_pos (by decide)
theorem ilog2 : ilog2 N = logn := by rw [← V.two_pow]; exact Nat.log2_two_pow
theorem logn_lt : logn < 16 := by rcases V with ⟨rfl, _, _⟩ | ⟨rfl, _, _⟩ <;> decide
/-- every segment of n fields, of any width, is a whole number of bytes -/
theorem bytes (w : Nat) : N * w = 8 * (N / 8 * w) := by
  rcases V with ⟨_, rfl, _⟩ | ⟨_, rfl, _⟩ <;> omega
theorem widthFG : skWidthFG N = .ok wf := by rcases V with ⟨_, rfl, rfl⟩ | ⟨_, rfl, rfl⟩ <;> rfl
theorem wf_pos : 1 ≤ wf := by rcases V with ⟨_, _, rfl⟩ | ⟨_, _, rfl⟩ <;> decide
theorem wf_le : wf ≤ 8 := by rcases V with ⟨_, _, rfl⟩ | ⟨_, _, rfl⟩ <;> decide
theorem skLogn {k : Nat} : Gen.skLogn.lookup k = some N ↔ k = logn := by
  have := lookup2 9 512 10 1024 k N
  rcases V with ⟨rfl, rfl, _⟩ | ⟨rfl, rfl, _⟩ <;> rw [Gen.skLogn, this] <;> omega
theorem pkLen {len : Nat} : Gen.pkLen.lookup len = some N ↔ len = 1 + N / 8 * 14 := by
  have := lookup2 897 512 1793 1024 len N
  rcases V with ⟨_, rfl, _⟩ | ⟨_, rfl, _⟩ <;> rw [Gen.pkLen, this] <;> omega
theorem skHeader : (Gen.skHeaderHi * 2 ^ Gen.skHeaderShift % 256 ||| KeyCodec.ilog2 N % 256) = 0x50 + logn := by
  rw [V.ilog2]; rcases V with ⟨rfl, _, _⟩ | ⟨rfl, _, _⟩ <;> decide
theorem unique {logn' wf' : Nat} (V' : Variant logn' N wf') : logn' = logn ∧ wf' = wf := by
  -- N names the variant: in the two mixed cases N = 512 and N = 1024 at once
  rcases V with ⟨rfl, hN, rfl⟩ | ⟨rfl, hN, rfl⟩ <;> rcases V' with ⟨rfl, hN', rfl⟩ | ⟨rfl, hN', rfl⟩
  · exact ⟨rfl, rfl⟩
  · omega
  · omega
  · exact ⟨rfl, rfl⟩
theorem exists_iff (P : Nat → Nat → Prop) : (∃ logn' wf', Variant logn' N wf' ∧ P logn' wf') ↔ P logn wf := by
  constructor
  · rintro ⟨_, _, V', h⟩
    obtain ⟨rfl, rfl⟩ := V.unique V'
    exact h
  · exact fun h => ⟨_, _, V, h⟩

end Variant

theorem Variant.of_lookup (a b k n : Nat) (h : [(a, 512), (b, 1024)].lookup k = some n) : ∃ logn wf, Variant logn n wf := by
  rcases (lookup2 a 512 b 1024 k n).mp h with ⟨_, rfl⟩ | ⟨_, _, rfl⟩
  · exact ⟨9, 6, .f512⟩
  · exact ⟨10, 5, .f1024⟩

/-! The property theorems name a parameter set by a disjunction: of N alone, of log₂ n and N, of N and the depth d of the
transforms, of N and the depth j of key generation.  The first two give a `Variant`; the last two are used where no
byte format is in sight (C01, C03, C04, C05). -/

theorem Variant.of_N {N : Nat} (hN : N = 512 ∨ N = 1024) : Variant (if N = 512 then 9 else 10) N (if N = 1024 then 5 else 6) := by
  rcases hN with rfl | rfl
  · exact .f512
  · exact .f1024

theorem Variant.of_logn {logn N : Nat} (hN : (logn = 9 ∧ N = 512) ∨ (logn = 10 ∧ N = 1024)) :
    Variant logn N (if N = 1024 then 5 else 6) := by
  rcases hN with ⟨rfl, rfl⟩ | ⟨rfl, rfl⟩
  · exact .f512
  · exact .f1024

theorem _root_.Falcon.variant_pow {N d : Nat} (h : (N = 512 ∧ d = 9) ∨ (N = 1024 ∧ d = 10)) :
    N = 2 ^ d ∧ d ≤ 10 ∧ (N = 512 ∨ N = 1024) := by
  rcases h with ⟨rfl, rfl⟩ | ⟨rfl, rfl⟩ <;> exact ⟨by decide, by decide, by decide⟩

/-- key generation names a parameter set by the depth j = d − 1 below its 32-bit top level -/
theorem _root_.Falcon.variant_succ {N j : Nat} (h : (N = 512 ∧ j = 8) ∨ (N = 1024 ∧ j = 9)) :
    (N = 512 ∧ j + 1 = 9) ∨ (N = 1024 ∧ j + 1 = 10) :=
  h.imp (fun h => ⟨h.1, by rw [h.2]⟩) (fun h => ⟨h.1, by rw [h.2]⟩)

/-- the encoding of three coefficient vectors as a Falcon-`N` secret key (either implementation's): the header byte, then
    the two's-complement fields of f, g (width `wf`) and F (width 8), each value strictly inside its range -/
def SkEncodes (N : Nat) (b : List Nat) (vf vg vF : List Int) : Prop :=
  ∃ logn wf, Variant logn N wf ∧ ∃ tl, b = (0x50 + logn) :: tl ∧ Segments N wf wf 8 (bitsOfBytes tl) vf vg vF

theorem skEncodes_iff {logn N wf : Nat} (V : Variant logn N wf) {b : List Nat} {vf vg vF : List Int} :
    SkEncodes N b vf vg vF ↔ ∃ tl, b = (0x50 + logn) :: tl ∧ Segments N wf wf 8 (bitsOfBytes tl) vf vg vF :=
  V.exists_iff fun logn wf => ∃ tl, b = (0x50 + logn) :: tl ∧ Segments N wf wf 8 (bitsOfBytes tl) vf vg vF

theorem SkEncodes.variant {N : Nat} {b : List Nat} {vf vg vF : List Int} (h : SkEncodes N b vf vg vF) :
    ∃ logn wf, Variant logn N wf :=
  let ⟨logn, wf, V, _⟩ := h
  ⟨logn, wf, V⟩

theorem SkEncodes.length {logn N wf : Nat} {b : List Nat} {vf vg vF : List Int} (V : Variant logn N wf)
    (h : SkEncodes N b vf vg vF) : b.length = 1 + N / 8 * wf + N / 8 * wf + N / 8 * 8 := by
  obtain ⟨tl, rfl, hS⟩ := (skEncodes_iff V).mp h
  have := hS.length
  rw [bitsOfBytes_length, V.bytes wf, V.bytes 8] at this
  rw [List.length_cons]; omega

/-- in the shape of the first three checks of `SecretKey::from_bytes` -/
theorem SkEncodes.header {N hd : Nat} {tl : List Nat} {vf vg vF : List Int} (h : SkEncodes N (hd :: tl) vf vg vF) :
    1 ≤ tl.length ∧ hd / 2 ^ 4 = 5 ∧ Gen.skLogn.lookup (hd % 16) = some N := by
  obtain ⟨logn, wf, V⟩ := h.variant
  obtain ⟨_, e, _⟩ := (skEncodes_iff V).mp h
  obtain rfl : hd = 0x50 + logn := (List.cons.inj e).1
  have hlogn := V.logn_lt
  -- the body is not empty: the segment of F alone has N ≥ 8 bytes
  have hlen := h.length V
  have hF : 8 ≤ N / 8 * 8 := by have := V.bytes 1; have := V.pos; omega
  rw [List.length_cons] at hlen
  -- 0x50 + logn = 16 · 5 + logn with logn < 16
  exact ⟨by omega, (Nat.mul_add_div (by decide : 16 > 0) 5 logn).trans (by rw [Nat.div_eq_of_lt hlogn]),
    V.skLogn.mpr ((Nat.mul_add_mod 16 5 logn).trans (Nat.mod_eq_of_lt hlogn))⟩

theorem skFromBytes_decodes (N : Nat) (b : List Nat) :
    Decodes (skFromBytes N b) fun t => ∃ vf vg vF, SkEncodes N b vf vg vF ∧
      t.1 = vf.map Zq.new ∧ t.2.1 = vg.map Zq.new ∧ t.2.2 = vF.map Zq.new := by
  unfold skFromBytes
  match b with
  | [] =>
    -- an encoding has its header byte; the length test refuses the empty string
    exact .guard _ (fun _ ⟨_, _, _, ⟨_, _, _, _, (e : [] = _ :: _), _⟩, _⟩ => nomatch e) fun h => absurd (by decide) h
  | hd :: tl =>
    refine .guard _ (fun _ ⟨_, _, _, hE, _⟩ => by have := hE.header.1; rw [List.length_cons]; omega) fun _ => ?_
    simp only [idx, List.getElem?_cons_zero, Res.bind_ok, List.drop_succ_cons, List.drop_zero, Gen.skHeaderChkShift,
      Gen.skHeaderChkVal, Gen.skWidthCapF]
    refine .guard_ne _ (fun _ ⟨_, _, _, hE, _⟩ => hE.header.2.1) fun hhi => ?_
    split
    · rename_i hlk
      exact .error _ fun _ ⟨_, _, _, hE, _⟩ => by rw [hE.header.2.2] at hlk; cases hlk
    rename_i n hlk
    refine .guard_ne _ (fun _ ⟨_, _, _, hE, _⟩ => ?_) fun hn => ?_
    · rw [hE.header.2.2] at hlk
      exact (Option.some.inj hlk).symm
    subst hn
    obtain ⟨logn, wf, V⟩ := Variant.of_lookup _ _ _ _ hlk
    have hlogn := V.logn_lt
    obtain rfl : hd = 0x50 + logn := by have hlo := V.skLogn.mp hlk; omega
    rw [V.widthFG, Res.bind_ok]
    -- what is left of the decoder checks the left side of `decodeSegments_iff`
    refine Decodes.congr ?_ fun t => (decodeSegments_iff n wf wf 8 V.wf_pos V.wf_pos (by decide) (bitsOfBytes tl) t).trans ?_
    · split
      · rename_i h; exact .error _ fun t ht => by rw [ht.2.1] at h; cases h
      rename_i f h1
      split
      · rename_i h; exact .error _ fun t ht => by rw [ht.2.2.1] at h; cases h
      rename_i g h2
      split
      · rename_i h; exact .error _ fun t ht => by rw [ht.2.2.2] at h; cases h
      rename_i cF h3
      refine .guard_ne _ (fun t ht => ht.1) fun hlen => .ok _ fun ⟨f', g', cF'⟩ => ?_
      rw [h1, h2, h3, Option.some.injEq, Option.some.injEq, Option.some.injEq, and_iff_right hlen,
        Prod.mk.injEq, Prod.mk.injEq]
    · simp only [skEncodes_iff V, List.cons.injEq, true_and, exists_eq_left']

theorem skFromBytes_ok_iff (N : Nat) (b : List Nat) (f g cF : List Nat) :
    skFromBytes N b = .ok (.ok (f, g, cF)) ↔
      ∃ vf vg vF, SkEncodes N b vf vg vF ∧ f = vf.map Zq.new ∧ g = vg.map Zq.new ∧ cF = vF.map Zq.new :=
  (skFromBytes_decodes N b).ok_iff

theorem sk_decoded_canonical (N : Nat) (b : List Nat) (f g cF : List Nat)
    (hacc : skFromBytes N b = .ok (.ok (f, g, cF))) :
    (∀ x ∈ f, x < 12289) ∧ (∀ x ∈ g, x < 12289) ∧ (∀ x ∈ cF, x < 12289) := by
  obtain ⟨vf, vg, vF, _, rfl, rfl, rfl⟩ := (skFromBytes_ok_iff N b f g cF).mp hacc
  have : ∀ (l : List Int), ∀ x ∈ l.map Zq.new, x < 12289 := fun l x hx => by
    obtain ⟨v, _, rfl⟩ := List.mem_map.mp hx
    exact Zq.new_lt v
  exact ⟨this _, this _, this _⟩

theorem sk_decoded_length (N : Nat) (b : List Nat) (f g cF : List Nat)
    (hacc : skFromBytes N b = .ok (.ok (f, g, cF))) : f.length = N ∧ g.length = N ∧ cF.length = N := by
  obtain ⟨vf, vg, vF, hE, rfl, rfl, rfl⟩ := (skFromBytes_ok_iff N b f g cF).mp hacc
  obtain ⟨logn, wf, V⟩ := hE.variant
  obtain ⟨tl, _, ⟨_, lf⟩, ⟨_, lg⟩, ⟨_, lF⟩, _⟩ := (skEncodes_iff V).mp hE
  exact ⟨by rw [List.length_map, lf], by rw [List.length_map, lg], by rw [List.length_map, lF]⟩

/-- the closure `ser` inside `skToBytes` -/
def ser (chk : Bool) (w : Nat) (c : Int) : Res (List Bool) := do
  let bal ← Zq.balanced chk (Zq.new c)
  pure (intBits w bal)

/-- a field of at most 8 bits lies in the range on which centring undoes `Felt::new` (`Zq.centred_new`) -/
theorem FieldRange.centred {w : Nat} {v : Int} (h : FieldRange w v) (hw : w ≤ 8) : -6145 < v ∧ v < 6145 := by
  have : (2 : Int) ^ (w - 1) ≤ 2 ^ 7 := by
    have := Nat.pow_le_pow_right (n := 2) (by decide) (show w - 1 ≤ 7 by omega)
    exact_mod_cast this
  obtain ⟨h1, h2⟩ := h
  omega

theorem ser_eq (chk : Bool) (w : Nat) (y : Int) :
    ser chk w y = .ok (((fun a : Nat => intBits w (if a > 6144 then (a : Int) - 12289 else a)) ∘ Zq.new) y) := by
  rw [ser, Zq.balanced_eq chk _ (Zq.new_lt y)]; rfl

theorem mapM_ser (chk : Bool) (w : Nat) (vs ys : List Int) (hv : ∀ v ∈ vs, -6145 < v ∧ v < 6145)
    (h : ys.map Zq.new = vs.map Zq.new) : ys.mapM (ser chk w) = .ok (vs.map (intBits w)) := by
  rw [Res.mapM_ok fun y _ => ser_eq chk w y, ← List.map_map, h, List.map_map]
  exact congrArg _ (List.map_congr_left fun v hv' => by rw [Function.comp, Zq.centred_new (hv v hv')])

/-- what `SecretKey::to_bytes` writes for values inside the ranges (given through any representatives of their residues) -/
theorem skToBytes_eq (chk : Bool) {logn N wf : Nat} (V : Variant logn N wf) (f g cF f' g' cF' : List Int)
    (lg : g'.length = N) (hf : ∀ v ∈ f, FieldRange wf v) (hg : ∀ v ∈ g, FieldRange wf v) (hF : ∀ v ∈ cF, FieldRange 8 v)
    (ef : f'.map Zq.new = f.map Zq.new) (eg : g'.map Zq.new = g.map Zq.new) (eF : cF'.map Zq.new = cF.map Zq.new) :
    skToBytes chk f' g' cF' = .ok ((0x50 + logn) :: bytesOfBits
      ((f.map (intBits wf)).flatten ++ (g.map (intBits wf)).flatten ++ (cF.map (intBits 8)).flatten)) := by
  have s1 := mapM_ser chk wf f f' (fun v hv => (hf v hv).centred V.wf_le) ef
  have s2 := mapM_ser chk wf g g' (fun v hv => (hg v hv).centred V.wf_le) eg
  have s3 := mapM_ser chk 8 cF cF' (fun v hv => (hF v hv).centred (Nat.le_refl 8)) eF
  unfold ser at s1 s2 s3
  simp only [Res.pure_eq] at s1 s2 s3
  have hh : 0x50 + logn < 256 := by have := V.logn_lt; omega
  simp only [skToBytes, lg, V.widthFG, Res.bind_ok, s1, s2, s3, Res.pure_eq, V.skHeader, Gen.skWidthCapF]
  rw [List.append_assoc, List.append_assoc, bytesOfBits_cons _ _ hh, List.append_assoc]

theorem skToBytes_lt (chk : Bool) (f g cF : List Int) (b : List Nat) (h : skToBytes chk f g cF = .ok b) : ∀ x ∈ b, x < 256 := by
  rw [skToBytes] at h
  obtain ⟨wf, _, h⟩ := Res.bind_eq_ok.mp h
  obtain ⟨fb, _, h⟩ := Res.bind_eq_ok.mp h
  obtain ⟨gb, _, h⟩ := Res.bind_eq_ok.mp h
  obtain ⟨Fb, _, h⟩ := Res.bind_eq_ok.mp h
  cases h
  exact bytesOfBits_lt _

theorem skToBytes_encodes (chk : Bool) {logn N wf : Nat} (V : Variant logn N wf) (f g cF : List Int)
    (lf : f.length = N) (lg : g.length = N) (lF : cF.length = N)
    (rf : ∀ v ∈ f, FieldRange wf v) (rg : ∀ v ∈ g, FieldRange wf v) (rF : ∀ v ∈ cF, FieldRange 8 v) :
    ∃ b, skToBytes chk f g cF = .ok b ∧ SkEncodes N b f g cF := by
  have h1 := bitsOfBytes_bytesOfBits (N / 8 * (wf + wf + 8))
    ((f.map (intBits wf)).flatten ++ (g.map (intBits wf)).flatten ++ (cF.map (intBits 8)).flatten) (by
      rw [List.length_append, List.length_append, fields_length, fields_length, fields_length, lf, lg, lF, ← Nat.mul_add,
        ← Nat.mul_add, V.bytes])
  exact ⟨_, skToBytes_eq chk V f g cF f g cF lg rf rg rF rfl rfl rfl, _, _, V, _, rfl, ⟨rf, lf⟩, ⟨rg, lg⟩, ⟨rF, lF⟩, h1⟩

/-- one public-key field: 14 bits, below q -/
def modqField (c : List Bool) : Option Nat := if bitsToNat c ≥ 12289 then none else some (bitsToNat c)

theorem mapM_modqField : ∀ (cs : List (List Bool)), cs.mapM modqField =
    if (cs.map bitsToNat).any (· ≥ Zq.q) then none else some (cs.map bitsToNat)
  | [] => rfl
  | c :: cs => by
    rw [List.mapM_cons, mapM_modqField cs, modqField, List.map_cons, List.any_cons]
    by_cases h1 : bitsToNat c ≥ 12289
    · rw [if_pos h1, decide_eq_true (show bitsToNat c ≥ Zq.q from h1)]; rfl
    · rw [if_neg h1, decide_eq_false (show ¬ bitsToNat c ≥ Zq.q from h1), Bool.false_or]
      split <;> rfl

theorem modqField_eq_some_iff (c : List Bool) (hc : c.length = 14) (x : Nat) :
    modqField c = some x ↔ x < 12289 ∧ intBits 14 (x : Int) = c := by
  have h1 := intBits_eq_iff c x
  have h2 := bitsToNat_lt c
  rw [hc] at h1 h2
  rw [h1, modqField]
  split
  · simp only [reduceCtorEq, false_iff]; omega
  · simp only [Option.some.injEq]; omega

theorem readFields_modq_iff (n : Nat) (S : List Bool) (hS : S.length = n * 14) (h : List Nat) :
    readFields modqField 14 n S = some h ↔
      (∀ x ∈ h, x < 12289) ∧ h.length = n ∧ (h.map fun (x : Nat) => intBits 14 (x : Int)).flatten = S :=
  readFields_eq_some_iff modqField (fun (x : Nat) => intBits 14 (x : Int)) (· < 12289) 14 (fun _ => intBits_length ..)
    (fun c x hc => modqField_eq_some_iff c hc x) n S h hS

/-- the encoding of a Falcon-`N` public key (either implementation's): header `logn`, then N canonical 14-bit fields -/
def PkEncodes (N : Nat) (b : List Nat) (h : List Nat) : Prop :=
  ∃ logn wf, Variant logn N wf ∧ ∃ tl, b = logn :: tl ∧ (∀ x ∈ h, x < 12289) ∧ h.length = N ∧
    bitsOfBytes tl = (h.map fun (x : Nat) => intBits 14 (x : Int)).flatten

theorem pkEncodes_iff {logn N wf : Nat} (V : Variant logn N wf) {b h : List Nat} :
    PkEncodes N b h ↔ ∃ tl, b = logn :: tl ∧ (∀ x ∈ h, x < 12289) ∧ h.length = N ∧
      bitsOfBytes tl = (h.map fun (x : Nat) => intBits 14 (x : Int)).flatten :=
  V.exists_iff fun logn _ => ∃ tl, b = logn :: tl ∧ (∀ x ∈ h, x < 12289) ∧ h.length = N ∧
    bitsOfBytes tl = (h.map fun (x : Nat) => intBits 14 (x : Int)).flatten

theorem PkEncodes.variant {N : Nat} {b h : List Nat} (hE : PkEncodes N b h) : ∃ logn wf, Variant logn N wf :=
  let ⟨logn, wf, V, _⟩ := hE
  ⟨logn, wf, V⟩

theorem PkEncodes.coef_length {N : Nat} {b h : List Nat} (hE : PkEncodes N b h) : h.length = N :=
  let ⟨_, _, _, _, _, _, hl, _⟩ := hE
  hl

theorem PkEncodes.length {logn N wf : Nat} {b h : List Nat} (V : Variant logn N wf) (hE : PkEncodes N b h) :
    b.length = 1 + N / 8 * 14 := by
  obtain ⟨tl, rfl, _, hl, hb⟩ := (pkEncodes_iff V).mp hE
  have := congrArg List.length hb
  rw [bitsOfBytes_length, length_flatten_map _ (fun _ => intBits_length ..), hl] at this
  have := V.bytes 14
  rw [List.length_cons]; omega

theorem pkFromBytes_decodes (N : Nat) (b : List Nat) : Decodes (pkFromBytes N b) (PkEncodes N b) := by
  have hlook : ∀ h, PkEncodes N b h → Gen.pkLen.lookup b.length = some N :=
    fun h hE => by obtain ⟨_, _, V⟩ := hE.variant; exact V.pkLen.mpr (hE.length V)
  unfold pkFromBytes
  split
  · rename_i hlk
    exact .error _ fun h hE => by rw [hlook h hE] at hlk; cases hlk
  rename_i n hlk
  refine .guard_ne _ (fun h hE => ?_) fun hn => ?_
  · rw [hlook h hE] at hlk
    exact (Option.some.inj hlk).symm
  subst hn
  obtain ⟨logn, wf, V⟩ := Variant.of_lookup _ _ _ _ hlk
  have hlen := V.pkLen.mp hlk
  have hlogn := V.logn_lt
  match b, hlen with
  | hd :: tl, hlen =>
    simp only [idx, List.getElem?_cons_zero, Res.bind_ok, V.ilog2, List.drop_succ_cons, List.drop_zero, Gen.pkWidth]
    have hhd : ∀ h, PkEncodes n (hd :: tl) h → hd = logn := fun h hE => by
      obtain ⟨_, e, _⟩ := (pkEncodes_iff V).mp hE
      exact (List.cons.inj e).1
    have hmod : logn % 256 = logn := Nat.mod_eq_of_lt (Nat.lt_trans hlogn (by decide))
    refine .guard_ne _ (fun h hE => by rw [hhd h hE]; exact Nat.div_eq_of_lt hlogn) fun _ =>
      .guard_ne _ (fun h hE => by rw [hhd h hE, hmod]) fun hhd' => ?_
    obtain rfl : hd = logn := hhd'.trans hmod
    -- what is left maps `modqField` over the chunks, written as a test and a map
    have htl : tl.length = n / 8 * 14 := Nat.add_left_cancel ((Nat.add_comm 1 _).trans hlen)
    have hS : (bitsOfBytes tl).length = n * 14 := by rw [bitsOfBytes_length, htl, ← V.bytes 14]
    have hfuel : n ≤ (hd :: tl).length := by have := V.bytes 14; omega
    refine Decodes.congr (P := fun h => (chunks 14 (hd :: tl).length (bitsOfBytes tl)).mapM modqField = some h) ?_ fun h => ?_
    · rw [mapM_modqField]
      generalize (chunks 14 (hd :: tl).length (bitsOfBytes tl)).map bitsToNat = fields
      refine .guard _ (fun h e hany => by rw [if_pos hany] at e; cases e) fun hany => .ok _ fun h => ?_
      -- every field is below q, so `Felt::new` is the identity on it
      have hnew : fields.map (fun (v : Nat) => Zq.new (v : Int)) = fields :=
        (List.map_congr_left fun x hx => Zq.new_natCast (Nat.lt_of_not_le fun h' =>
          hany (List.any_eq_true.mpr ⟨x, hx, decide_eq_true h'⟩))).trans (List.map_id fields)
      rw [if_neg hany, hnew, Option.some.injEq]
    · rw [mapM_chunks modqField 14 (by decide) n _ _ hS hfuel, readFields_modq_iff n _ hS, pkEncodes_iff V]
      simp only [List.cons.injEq, true_and, exists_eq_left', eq_comm]

theorem pkFromBytes_ok_iff (N : Nat) (b h : List Nat) : pkFromBytes N b = .ok (.ok h) ↔ PkEncodes N b h :=
  (pkFromBytes_decodes N b).ok_iff

theorem pkToBytes_eq {logn N wf : Nat} (V : Variant logn N wf) (h : List Nat) (hl : h.length = N) (hq : ∀ x ∈ h, x < 12289) :
    pkToBytes h = logn :: bytesOfBits (h.map fun (x : Nat) => intBits 14 (x : Int)).flatten := by
  have hlogn := V.logn_lt
  have : (h.flatMap fun hi => intBits Gen.pkWidthEnc (Zq.value hi)) = (h.map fun (x : Nat) => intBits 14 (x : Int)).flatten := by
    rw [List.flatMap_def, Gen.pkWidthEnc]
    refine congrArg List.flatten (List.map_congr_left fun x hx => ?_)
    have : Zq.value x = (x : Int) := by have := hq x hx; simp only [Zq.value, wrapI16, wrapS]; omega
    rw [this]
  rw [pkToBytes, hl, V.ilog2, Nat.mod_eq_of_lt (by omega), this, bytesOfBits_cons _ _ (by omega)]

theorem pkToBytes_lt (h : List Nat) : ∀ x ∈ pkToBytes h, x < 256 := bytesOfBits_lt _

theorem pkToBytes_encodes {logn N wf : Nat} (V : Variant logn N wf) (h : List Nat) (hl : h.length = N) (hq : ∀ x ∈ h, x < 12289) :
    PkEncodes N (pkToBytes h) h := by
  have h1 := bitsOfBytes_bytesOfBits (N / 8 * 14) (h.map fun (x : Nat) => intBits 14 (x : Int)).flatten (by
    rw [length_flatten_map _ (fun _ => intBits_length ..), hl, ← V.bytes 14])
  rw [pkToBytes_eq V h hl hq]
  exact ⟨_, _, V, _, rfl, hq, hl, h1⟩

theorem pk_roundtrip (N : Nat) (hN : N = 512 ∨ N = 1024) (h : List Nat) (hl : h.length = N)
    (hq : ∀ x ∈ h, x < 12289) : pkFromBytes N (pkToBytes h) = .ok (.ok h) :=
  (pkFromBytes_ok_iff N _ h).mpr (pkToBytes_encodes (Variant.of_N hN) h hl hq)

theorem sigToBytes_length (salt s : List Nat) : (sigToBytes salt s).length = 1 + salt.length + s.length := by
  rw [sigToBytes, List.length_append, List.length_cons, Nat.add_comm salt.length]

/-- the Falcon-`N` signature string of a 40-byte salt and a compressed body of the variant's length -/
def SigEncodes (N : Nat) (b salt s : List Nat) : Prop :=
  ∃ L, ((N = 512 ∧ L = 625) ∨ (N = 1024 ∧ L = 1239)) ∧ salt.length = 40 ∧ s.length = L ∧ b = sigToBytes salt s

/-- `to_bytes` takes the low nibble of the header from the length of the body, not from n: ⌊log₂ 625⌋ = 9 and
    ⌊log₂ 1239⌋ = 10 -/
theorem sigEncodes_cons_iff {N hd : Nat} {tl salt s : List Nat} :
    SigEncodes N (hd :: tl) salt s ↔
      ((N = 512 ∧ hd = 0x59 ∧ tl.length = 665) ∨ (N = 1024 ∧ hd = 0x5a ∧ tl.length = 1279)) ∧
        salt = tl.take 40 ∧ s = tl.drop 40 := by
  constructor
  · rintro ⟨L, hNL, h40, hL, e⟩
    rw [sigToBytes, List.cons_append, hL] at e
    obtain ⟨rfl, rfl⟩ := List.cons.inj e
    rw [List.length_append, h40, hL, List.take_left' h40, List.drop_left' h40]
    rcases hNL with ⟨rfl, rfl⟩ | ⟨rfl, rfl⟩
    · exact ⟨.inl ⟨rfl, rfl, rfl⟩, rfl, rfl⟩
    · exact ⟨.inr ⟨rfl, rfl, rfl⟩, rfl, rfl⟩
  · rintro ⟨h, rfl, rfl⟩
    have hcat : tl.take 40 ++ tl.drop 40 = tl := List.take_append_drop 40 tl
    have l2 : (tl.drop 40).length = tl.length - 40 := List.length_drop
    rcases h with ⟨rfl, rfl, hl⟩ | ⟨rfl, rfl, hl⟩
    · rw [hl] at l2
      exact ⟨625, .inl ⟨rfl, rfl⟩, by rw [List.length_take, hl]; rfl, l2, by rw [sigToBytes, l2, List.cons_append, hcat]; rfl⟩
    · rw [hl] at l2
      exact ⟨1239, .inr ⟨rfl, rfl⟩, by rw [List.length_take, hl]; rfl, l2, by rw [sigToBytes, l2, List.cons_append, hcat]; rfl⟩

/-- its length names its variant, and its header byte passes the three header checks of `Signature::from_bytes`, in their
    shape -/
theorem SigEncodes.header {N hd : Nat} {tl salt s : List Nat} (h : SigEncodes N (hd :: tl) salt s) :
    sigN (tl.length + 1) = some N ∧ hd / 32 % 4 = 2 ∧ ¬ (hd / 128 ≠ 0 ∨ hd / 16 % 2 = 0) ∧ N = 2 ^ (hd % 16) := by
  rcases (sigEncodes_cons_iff.mp h).1 with ⟨rfl, rfl, hl⟩ | ⟨rfl, rfl, hl⟩ <;> rw [hl] <;> decide

theorem sigN_eq_some {len n : Nat} (h : sigN len = some n) : (len = 666 ∧ n = 512) ∨ (len = 1280 ∧ n = 1024) := by
  rw [sigN, Gen.sigBytelen512, Gen.sigBytelen1024] at h
  split at h
  · exact .inl ⟨‹_›, (Option.some.inj h).symm⟩
  split at h
  · exact .inr ⟨‹_›, (Option.some.inj h).symm⟩
  · cases h

/-- a byte that passes the header checks is `0·128 + 2·32 + 1·16 +` its low nibble -/
theorem sig_header_byte {hd k : Nat} (c1 : hd / 32 % 4 = 2) (c2 : ¬ (hd / 128 ≠ 0 ∨ hd / 16 % 2 = 0)) (hk : k = hd % 16) :
    hd = 0x50 + k := by omega

/-- `Signature::from_bytes` never panics (its two slice bounds hold once the length has named a variant) and returns
    `Ok (salt, s)` exactly for the strings `sigToBytes salt s` of this variant -/
theorem sigFromBytes_decodes (N : Nat) (b : List Nat) : Decodes (sigFromBytes N b) fun x => SigEncodes N b x.1 x.2 := by
  unfold sigFromBytes
  match b with
  | [] => exact .error _ fun _ ⟨_, _, _, _, e⟩ => nomatch e
  | hd :: tl =>
    rw [List.length_cons]
    split
    · rename_i hn
      exact .error _ fun _ hE => by rw [hE.header.1] at hn; cases hn
    rename_i n hn
    refine .guard_ne _ (fun _ hE => ?_) fun hN => ?_
    · rw [hE.header.1] at hn
      exact (Option.some.inj hn).symm
    subst hN
    have hlen := sigN_eq_some hn
    simp only [idx, List.getElem?_cons_zero, Res.bind_ok, Gen.saltEnd, Gen.saltLen, Gen.sigBodyOffset, Gen.sigFeltEncodingDec,
      List.drop_succ_cons, List.drop_zero]
    rw [if_neg (by omega), if_neg (by omega)]
    refine .guard_ne _ (fun _ hE => hE.header.2.1) fun c1 => .guard _ (fun _ hE => hE.header.2.2.1) fun c2 =>
      .guard_ne _ (fun _ hE => hE.header.2.2.2) fun hpow => .ok _ fun (salt, s) => ?_
    -- the checks leave one header byte per variant
    have hv : (n = 512 ∧ hd = 0x59 ∧ tl.length = 665) ∨ (n = 1024 ∧ hd = 0x5a ∧ tl.length = 1279) := by
      rcases hlen with ⟨hl, rfl⟩ | ⟨hl, rfl⟩
      · exact .inl ⟨rfl, sig_header_byte c1 c2 ((Nat.pow_right_inj (a := 2) (m := 9) (by decide)).mp hpow), Nat.succ.inj hl⟩
      · exact .inr ⟨rfl, sig_header_byte c1 c2 ((Nat.pow_right_inj (a := 2) (m := 10) (by decide)).mp hpow), Nat.succ.inj hl⟩
    rw [sigEncodes_cons_iff, and_iff_right hv, Prod.mk.injEq, eq_comm, @eq_comm _ s]

theorem sigFromBytes_ok_iff (N : Nat) (b salt s : List Nat) :
    sigFromBytes N b = .ok (.ok (salt, s)) ↔ SigEncodes N b salt s :=
  (sigFromBytes_decodes N b).ok_iff

theorem sig_parse (N L : Nat) (salt body : List Nat) (hsalt : salt.length = 40) (hb : body.length = L)
    (hNL : (N = 512 ∧ L = 625) ∨ (N = 1024 ∧ L = 1239)) :
    sigFromBytes N (sigToBytes salt body) = .ok (.ok (salt, body)) :=
  (sigFromBytes_ok_iff N _ salt body).mpr ⟨L, hNL, hsalt, hb, rfl⟩

/-- the body length `sign` compresses to, as both models of `sign` spell it, is the variant's L -/
theorem sig_budget {N L : Nat} (hNL : (N = 512 ∧ L = 625) ∨ (N = 1024 ∧ L = 1239)) :
    (if N = 512 then Gen.sigBytelen512 else Gen.sigBytelen1024) - Gen.signBudgetSub = L := by
  rcases hNL with ⟨rfl, rfl⟩ | ⟨rfl, rfl⟩ <;> rfl

end Falcon.KeyCodec

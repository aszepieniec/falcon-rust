import Falcon.Lemmas.FftExact
import Falcon.Lemmas.CplxTable
import Falcon.Lemmas.NttBreadthFirst

/-!
# C13 — the floating-point FFT layer: what the network computes in exact arithmetic, and the table

`Falcon.FftFlt` defines the transform, split and merge once, generically in the scalar operations.  The
executable instance (pairs of doubles, num-complex's formulas) is compared with the Rust code bit for bit on
every run; the theorems below are about the same definitions instantiated with an exact commutative ring/field:
round trip, multiplication = negacyclic product, merge ∘ split = id, split ∘ fft = (fft even, fft odd) — for
every length 2^d and every input, under the table relations (ζ² down the tree, ζ·ζ⁻¹ = 1, 2^d·n⁻¹ = 1, ½·2 = 1).
The table relations are checked for the real table in exact dyadic arithmetic to 2^-50.  NOT proved: the
rounding-error bound 2^-30·‖a‖·‖b‖ for all inputs (Lean's kernel has no floating-point semantics); it is
measured against exact integer arithmetic on every run (observed worst relative error ~2^-50).
First, about the network itself and any scalar operations (no algebraic law): the breadth-first loop nest
`nttBF` / `inttBF` (stage after stage over the whole array) returns what the depth-first network returns, hence so does the
executable Complex64 transform (`float_fft_is_the_breadth_first_loop_nest`).
-/
namespace Falcon.Props.C13
open Falcon Falcon.FftFlt

variable {F : Type} [CommRing F]

/-- the executable floating-point transform *is* the generic network at the Complex64 operations -/
theorem float_instance_is_the_generic_network (a : List C) :
    fft a = nttRecO cops FftFlt.T (log2 a.length) 1 a := rfl

/-- **the loop nest of the Rust code is the network of the model**: the forward transform run breadth first — stage
    after stage over the whole array, the stage with m blocks using twiddle `psi_rev[m + i]` for block i, as
    cyclotomic_fourier.rs does — returns exactly what the depth-first network returns, for ANY scalar operations (no
    algebraic law is used), hence for the floating-point instance bit for bit, for every d and every vector of length 2^d -/
theorem breadth_first_loop_nest_is_the_network {α : Type} (o : Ops α) (T : Nat → α) (d : Nat) (a : List α)
    (ha : a.length = 2 ^ d) : nttBF o T d a = nttRecO o T d 1 a :=
  nttBF_eq_nttRecO o T d a ha

/-- the same for the inverse transform: merging stages, innermost first, pair i of the stage with h parents using
    `psi_inv_rev[h + i]` and the butterfly `(u + v, (u − v)·s)` — equal to the depth-first inverse network, any operations -/
theorem breadth_first_inverse_loop_nest_is_the_network {α : Type} (o : Ops α) (TI : Nat → α) (d : Nat) (a : List α)
    (ha : a.length = 2 ^ d) : inttBF o TI d a = inttRecO o TI d 1 a :=
  inttBF_eq_inttRecO o TI d a ha

/-- … in particular for the executable Complex64 transform -/
theorem float_fft_is_the_breadth_first_loop_nest (d : Nat) (a : List C) (ha : a.length = 2 ^ d) :
    fft a = nttBF cops FftFlt.T d a := by
  rw [nttBF_eq_nttRecO cops FftFlt.T d a ha]
  rw [fft, ha, log2_pow]

/-- non-vacuity: the instance d = 2, on four symbols and any operations -/
example (o : Ops Nat) (T : Nat → Nat) (a b c d : Nat) :
    nttBF o T 2 [a, b, c, d] = nttRecO o T 2 1 [a, b, c, d] := nttBF_eq_nttRecO o T 2 _ rfl

/-- ifft(fft a) = a in exact arithmetic -/
theorem roundtrip_exact (T TI : Nat → F) (d : Nat) (ninv : F) (hn : (2 : F) ^ d * ninv = 1) (a : List F)
    (ha : a.length = 2 ^ d)
    (hinv : ∀ e, e < d → ∀ j, 1 * 2 ^ e ≤ j → j < (1 + 1) * 2 ^ e → T j * TI j = 1) :
    (inttRecO ringOps TI d 1 (nttRecO ringOps T d 1 a)).map (· * ninv) = a := by
  rw [nttRecO_eq, inttRecO_eq, NttG.intt_ntt_scaled hn hinv ha]

/-- ifft(fft a ⊙ fft b) = a ⋆ b in F[X]/(X^n+1) in exact arithmetic -/
theorem multiplication_exact (T TI : Nat → F) (d : Nat) (ninv : F) (hn : (2 : F) ^ d * ninv = 1) (a b : List F)
    (ha : a.length = 2 ^ d) (hb : b.length = 2 ^ d) (hT : NttG.TableOK T d 1)
    (hinv : ∀ e, e < d → ∀ j, 1 * 2 ^ e ≤ j → j < (1 + 1) * 2 ^ e → T j * TI j = 1) :
    (inttRecO ringOps TI d 1 (List.zipWith (· * ·) (nttRecO ringOps T d 1 a) (nttRecO ringOps T d 1 b))).map (· * ninv)
      = NttG.negacyc (2 ^ d) a b := by
  rw [nttRecO_eq, nttRecO_eq, inttRecO_eq, ← NttG.ntt_negacyc hT ha hb,
    NttG.intt_ntt_scaled hn hinv (NttG.negacyc_length _ a b hb)]

/-- merge(split F) = F for every transform-domain vector of even length -/
theorem merge_split (T TI : Nat → F) (half : F) (hh : half * 2 = 1) (l : List F) (i : Nat)
    (hl : l.length % 2 = 0) (hz : ∀ j, i ≤ j → T j * TI j = 1) :
    mergeO ringOps T i (splitO ringOps TI half i l).1 (splitO ringOps TI half i l).2 = l :=
  mergeO_splitO T TI half hh l i hl fun j _ => hz _ (Nat.le_add_right i j)

/-- split(fft a) = (fft a_even, fft a_odd) for every a of length 2^(d+1) -/
theorem split_of_fft (T TI : Nat → F) (half : F) (hh : half * 2 = 1) (d : Nat) (a : List F)
    (ha : a.length = 2 ^ (d + 1)) (hT : NttG.TableOK T (d + 1) 1)
    (hinv : ∀ j, 2 ^ d ≤ j → j < 2 ^ (d + 1) → T j * TI j = 1) :
    splitO ringOps TI half (2 ^ d) (nttRecO ringOps T (d + 1) 1 a) =
      (nttRecO ringOps T d 1 (evens a), nttRecO ringOps T d 1 (odds a)) :=
  split_fft_exact T TI half hh d a ha hT hinv

/-- the complex table of fast_fft.rs satisfies those relations to 2^-50 in exact dyadic arithmetic
    (T[0] = 1, T[1] ≈ i, T[2k]² ≈ T[k], T[2k+1] ≈ i·T[2k], |T[k]| ≈ 1, even entries in the first quadrant) -/
theorem complex_table_consistent : CplxTab.tableOK = true := CplxTab.tableOK_true

/-- the trivial instance 1·1 = 1 of the hypothesis ζ·ζ⁻¹ = 1.  That the table hypotheses `NttG.TableOK` and T·TI = 1 at
    every node can be met is shown where they are discharged: exactly in Z/12289 by the tables of C11 (`Ntt.tables` in
    `Lemmas/NttZMod`), and for the complex table to 2^-50 by `complex_table_consistent` -/
example : (1 : Int) * 1 = 1 := rfl

end Falcon.Props.C13

import Falcon.Lemmas.NttGeneric
import Falcon.Model.RingZ

/-!
Exact ring Z[X]/(X^n+1) on coefficient lists: the evaluation map at any root ρ of X^n+1 in any commutative
ring is additive and multiplicative (in particular for the universal root X in Z[X]/(X^n+1) itself).  The list
operations of `RingZ` are those of `NttG` over ℤ, so every `ev_*` lemma is the `NttG.evalL_*` lemma after the cast.
-/
namespace Falcon.RingZ
open Falcon

variable {R : Type} [CommRing R]

/-- the image of an integer polynomial (coefficient list) at ρ -/
def ev (l : List Int) (ρ : R) : R := NttG.evalL (l.map (Int.cast : Int → R)) ρ

theorem map_addL (a b : List Int) : (addL a b).map (Int.cast : Int → R) = NttG.addL (a.map Int.cast) (b.map Int.cast) :=
  List.map_zipWith_hom Int.cast_add a b

theorem map_smulL (c : Int) (a : List Int) : (smulL c a).map (Int.cast : Int → R) = NttG.smulL (c : R) (a.map Int.cast) := by
  simp [smulL, NttG.smulL, Function.comp_def]

theorem map_mulX (p : List Int) : (mulX p).map (Int.cast : Int → R) = NttG.mulX (p.map Int.cast) := by
  unfold mulX NttG.mulX
  rw [List.getLast?_map]
  cases h : p.getLast? with
  | none => simp
  | some l => simp [List.map_dropLast]

theorem map_negacyc (n : Nat) : ∀ (a b : List Int),
    (negacyc n a b).map (Int.cast : Int → R) = NttG.negacyc n (a.map Int.cast) (b.map Int.cast)
  | [], b => by simp [negacyc, NttG.negacyc]
  | x :: xs, b => by
    simp only [negacyc, NttG.negacyc, List.map_cons]
    rw [map_addL, map_smulL, map_mulX, map_negacyc n xs b]

theorem addL_length {a b : List Int} {n : Nat} (ha : a.length = n) (hb : b.length = n) : (addL a b).length = n :=
  List.length_zipWith_eq _ ha hb

theorem subL_length {a b : List Int} {n : Nat} (ha : a.length = n) (hb : b.length = n) : (subL a b).length = n :=
  List.length_zipWith_eq _ ha hb

theorem smulL_length (c : Int) (a : List Int) : (smulL c a).length = a.length := by simp [smulL]

theorem negL_length (a : List Int) : (negL a).length = a.length := by simp [negL]

theorem mulX_length (p : List Int) : (mulX p).length = p.length := by
  have := NttG.mulX_length (F := Int) (p.map Int.cast)
  rwa [← map_mulX, List.length_map, List.length_map] at this

theorem negacyc_length (n : Nat) (a b : List Int) (hb : b.length = n) : (negacyc n a b).length = n := by
  have := NttG.negacyc_length (F := Int) n (a.map Int.cast) (b.map Int.cast) (by simpa using hb)
  rw [← map_negacyc] at this
  simpa using this

theorem ev_nil (ρ : R) : ev ([] : List Int) ρ = 0 := by simp [ev, NttG.evalL]

theorem ev_cons (x : Int) (l : List Int) (ρ : R) : ev (x :: l) ρ = (x : R) + ρ * ev l ρ := by
  simp [ev, NttG.evalL]

theorem ev_append (a b : List Int) (ρ : R) : ev (a ++ b) ρ = ev a ρ + ρ ^ a.length * ev b ρ := by
  rw [ev, List.map_append, NttG.evalL_append, List.length_map]
  rfl

theorem ev_take_drop (k : Nat) (p : List Int) (ρ : R) :
    ev p ρ = ev (p.take k) ρ + ρ ^ min k p.length * ev (p.drop k) ρ := by
  conv => lhs; rw [← List.take_append_drop k p]
  rw [ev_append, List.length_take]

theorem ev_replicate_zero (k : Nat) (ρ : R) : ev (List.replicate k 0) ρ = 0 := by
  simp [ev, NttG.evalL_replicate_zero]

theorem ev_const (c : Int) (k : Nat) (ρ : R) : ev (c :: List.replicate k 0) ρ = c := by
  rw [ev_cons, ev_replicate_zero, mul_zero, add_zero]

theorem ev_addL {a b : List Int} {n : Nat} (ha : a.length = n) (hb : b.length = n) (ρ : R) :
    ev (addL a b) ρ = ev a ρ + ev b ρ := by
  rw [ev, map_addL]
  exact NttG.evalL_addL _ _ (by rw [List.length_map, List.length_map, ha, hb]) ρ

theorem ev_subL {a b : List Int} {n : Nat} (ha : a.length = n) (hb : b.length = n) (ρ : R) :
    ev (subL a b) ρ = ev a ρ - ev b ρ := by
  rw [ev, subL, List.map_zipWith_hom (Int.cast_sub (R := R)) a b]
  exact NttG.evalL_sub _ _ (by rw [List.length_map, List.length_map, ha, hb]) ρ

theorem ev_smulL (c : Int) (a : List Int) (ρ : R) : ev (smulL c a) ρ = (c : R) * ev a ρ := by
  rw [ev, map_smulL]
  exact NttG.evalL_smulL _ _ ρ

theorem ev_negL (a : List Int) (ρ : R) : ev (negL a) ρ = - ev a ρ := by
  have : negL a = smulL (-1) a := List.map_congr_left fun x _ => (Int.neg_one_mul x).symm
  rw [this, ev_smulL, Int.cast_neg, Int.cast_one, neg_one_mul]

theorem ev_mulX (m : Nat) (p : List Int) (hp : p.length = m) (σ : R) (hσ : σ ^ m = -1) :
    ev (mulX p) σ = σ * ev p σ := by
  rw [ev, map_mulX]
  exact NttG.evalL_mulX m σ hσ _ (by simpa using hp)

theorem ev_negacyc (n : Nat) (a b : List Int) (hb : b.length = n) (ρ : R) (hρ : ρ ^ n = -1) :
    ev (negacyc n a b) ρ = ev a ρ * ev b ρ := by
  rw [ev, map_negacyc]
  exact NttG.evalL_negacyc_of_pow n ρ hρ _ _ (by simpa using hb)

end Falcon.RingZ

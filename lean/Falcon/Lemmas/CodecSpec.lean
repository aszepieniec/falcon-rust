import Falcon.Lemmas.Bits

/-!
The bit-level reference (Spec/Codec: Algorithms 17 and 18) characterised.  The unary reader `readUnary` on a run of zeros
and back; one coefficient by its parts — sign, unary run, seven value bits (`coefValue`, `negZero`, `decCoef_cons`,
`encCoef_coefValue`) — so that `decCoef` accepts exactly `encCoef c ++ rest` below the cap (`decCoef_encCoef`,
`decCoef_inv`); n coefficients (`decN`, `decN_eq_some_iff`); and from these what each of `decBits`, `compressRef`,
`decompressRef` accepts and returns (`*_eq_some_iff`).  Round trip and canonicity (Props/C07) are read off the last
three.  Core Lean only.
-/
namespace Falcon.Spec

theorem low7_roundtrip (a : Nat) (h : a < 128) : bitsToNat (low7 a) = a := by
  rw [low7_eq, bitsToNat_msb]; exact Nat.mod_eq_of_lt h

theorem low7_of_bits (b6 b5 b4 b3 b2 b1 b0 : Bool) :
    low7 (bitsToNat [b6, b5, b4, b3, b2, b1, b0]) = [b6, b5, b4, b3, b2, b1, b0] :=
  (low7_eq _).trans (msb_bitsToNat [b6, b5, b4, b3, b2, b1, b0])

theorem readUnary_replicate (cap : Nat) (rest : List Bool) : ∀ (r k : Nat), k + r < cap ∨ r = 0 →
    readUnary cap (List.replicate r false ++ true :: rest) k = some (k + r, rest)
  | 0, _, _ => rfl
  | r + 1, k, h => by
    rw [List.replicate_succ, List.cons_append, readUnary, if_neg (by omega), readUnary_replicate cap rest r (k + 1) (by omega),
      Nat.add_assoc, Nat.add_comm 1 r]

theorem readUnary_replicate_none (cap : Nat) (rest : List Bool) : ∀ (r k : Nat), k < cap → cap ≤ k + r →
    readUnary cap (List.replicate r false ++ rest) k = none
  | 0, _, h1, h2 => by omega
  | r + 1, k, h1, h2 => by
    rw [List.replicate_succ, List.cons_append, readUnary]
    split
    · rfl
    · exact readUnary_replicate_none cap rest r (k + 1) (by omega) (by omega)

theorem readUnary_inv (cap : Nat) : ∀ (bs : List Bool) (k k' : Nat) (rest : List Bool),
    readUnary cap bs k = some (k', rest) →
      k ≤ k' ∧ bs = List.replicate (k' - k) false ++ true :: rest ∧ (k' = k ∨ k' < cap)
  | true :: bs, k, k', rest, h => by
    obtain ⟨rfl, rfl⟩ := Prod.mk.inj (Option.some.inj h)
    exact ⟨Nat.le_refl _, by rw [Nat.sub_self]; rfl, Or.inl rfl⟩
  | false :: bs, k, k', rest, h => by
    rw [readUnary] at h
    split at h
    · cases h
    · obtain ⟨h1, h2, h3⟩ := readUnary_inv cap bs (k + 1) k' rest h
      refine ⟨by omega, ?_, by omega⟩
      rw [(by omega : k' - k = (k' - (k + 1)) + 1), List.replicate_succ, List.cons_append, ← h2]

theorem readUnary_drop (cap : Nat) (hc : 0 < cap) (bs : List Bool) (h : Nat) (r : List Bool)
    (hr : readUnary cap bs 0 = some (h, r)) : h < cap ∧ r = bs.drop (h + 1) := by
  obtain ⟨_, hb, hk⟩ := readUnary_inv cap bs 0 h r hr
  rw [Nat.sub_zero] at hb
  refine ⟨by omega, ?_⟩
  rw [hb, show List.replicate h false ++ true :: r = (List.replicate h false ++ [true]) ++ r from
    (List.append_assoc _ [true] r).symm, List.drop_left' (by simp)]

/-- the coefficient with sign bit `neg`, a unary run of `high` zeros and value bits `low` -/
def coefValue (neg : Bool) (high low : Nat) : Int := (if neg then -1 else 1) * ((high * 128 + low : Nat) : Int)

/-- the "-0" test as the code writes it -/
def negZero (neg : Bool) (high low : Nat) : Bool := low == 0 && high == 0 && neg

theorem natAbs_coefValue (neg : Bool) (high low : Nat) : (coefValue neg high low).natAbs = high * 128 + low := by
  rw [coefValue, Int.natAbs_mul, Int.natAbs_natCast]
  cases neg <;> simp

theorem coefValue_self (c : Int) :
    coefValue (decide (c < 0)) (c.natAbs / 128) (c.natAbs % 128) = c ∧
      negZero (decide (c < 0)) (c.natAbs / 128) (c.natAbs % 128) = false := by
  rw [coefValue, negZero, Nat.div_add_mod']
  by_cases h : c < 0
  · have : c.natAbs ≠ 0 := by omega
    simp [h]; omega
  · simp [h]; omega

theorem encCoef_coefValue (neg : Bool) (high low : Nat) (hl : low < 128) (hz : negZero neg high low = false) :
    encCoef (coefValue neg high low) = neg :: (msb 7 low ++ (List.replicate high false ++ [true])) := by
  have hs : decide (coefValue neg high low < 0) = neg := by
    cases neg
    · simp [coefValue]; omega
    · simp [negZero] at hz; simp [coefValue]; omega
  have hmod : (high * 128 + low) % 128 = low := (Nat.mul_add_mod' high 128 low).trans (Nat.mod_eq_of_lt hl)
  have hdiv : (high * 128 + low) / 128 = high := by
    rw [Nat.add_comm, Nat.add_mul_div_right _ _ (by decide), Nat.div_eq_of_lt hl, Nat.zero_add]
  rw [encCoef, natAbs_coefValue, hs, low7_eq, List.append_assoc, List.cons_append, hmod, hdiv]

theorem decCoef_cons (cap : Nat) (s : Bool) (l7 tl : List Bool) (h : l7.length = 7) :
    decCoef cap (s :: (l7 ++ tl)) = (readUnary cap tl 0).bind fun p =>
      if negZero s p.1 (bitsToNat l7) then none else some (coefValue s p.1 (bitsToNat l7), p.2) := by
  match l7, h with
  | [b6, b5, b4, b3, b2, b1, b0], _ =>
    simp only [List.cons_append, List.nil_append, decCoef]
    generalize bitsToNat [b6, b5, b4, b3, b2, b1, b0] = low
    cases readUnary cap tl 0 with
    | none => rfl
    | some p =>
      have hz : (p.1 * 128 + low == 0) = (low == 0 && p.1 == 0) := by
        apply Bool.eq_iff_iff.mpr; simp only [beq_iff_eq, Bool.and_eq_true]; omega
      cases s <;> simp [negZero, coefValue, hz]

theorem decCoef_shape (cap : Nat) (bs : List Bool) (p : Int × List Bool) (h : decCoef cap bs = some p) :
    ∃ s l7 tl, l7.length = 7 ∧ bs = s :: (l7 ++ tl) := by
  match bs, h with
  | s :: b6 :: b5 :: b4 :: b3 :: b2 :: b1 :: b0 :: tl, _ => exact ⟨s, [b6, b5, b4, b3, b2, b1, b0], tl, rfl, rfl⟩

theorem decCoef_encCoef (cap : Nat) (c : Int) (rest : List Bool) (hc : c.natAbs / 128 = 0 ∨ c.natAbs / 128 < cap) :
    decCoef cap (encCoef c ++ rest) = some (c, rest) := by
  obtain ⟨hv, hz⟩ := coefValue_self c
  have hl : c.natAbs % 128 < 128 := Nat.mod_lt _ (by decide)
  conv => lhs; rw [← hv, encCoef_coefValue _ _ _ hl hz]
  rw [List.cons_append, List.append_assoc, decCoef_cons _ _ _ _ (length_msb ..), List.append_assoc, List.singleton_append,
    readUnary_replicate cap rest _ 0 (by omega), Option.bind_some, Nat.zero_add, bitsToNat_msb, Nat.mod_eq_of_lt hl, hz, hv]
  rfl

theorem decCoef_inv (cap : Nat) (bs : List Bool) (c : Int) (rest : List Bool)
    (h : decCoef cap bs = some (c, rest)) :
    bs = encCoef c ++ rest ∧ (c.natAbs / 128 = 0 ∨ c.natAbs / 128 < cap) := by
  obtain ⟨s, l7, tl, hl, rfl⟩ := decCoef_shape cap bs _ h
  have hlow := bitsToNat_lt_of hl
  rw [decCoef_cons cap s l7 tl hl] at h
  cases hu : readUnary cap tl 0 with
  | none => rw [hu] at h; cases h
  | some p =>
    obtain ⟨_, htl, hk⟩ := readUnary_inv cap tl 0 p.1 p.2 hu
    rw [hu, Option.bind_some] at h
    split at h
    · cases h
    · rename_i hz
      cases h
      refine ⟨?_, by rw [natAbs_coefValue]; omega⟩
      rw [encCoef_coefValue _ _ _ hlow (by simpa using hz), ← hl, msb_bitsToNat, htl, Nat.sub_zero,
        List.cons_append, List.append_assoc, List.append_assoc, List.singleton_append]

theorem length_encCoef (c : Int) : (encCoef c).length = 9 + c.natAbs / 128 := by
  simp [encCoef, low7]; omega

theorem decCoef_length (cap : Nat) (bs : List Bool) (c : Int) (r : List Bool) (h : decCoef cap bs = some (c, r)) :
    r.length + 9 ≤ bs.length := by
  rw [(decCoef_inv cap bs c r h).1, List.length_append, length_encCoef]; omega

theorem decCoef_short (cap : Nat) (bs : List Bool) (h : bs.length < 9) : decCoef cap bs = none := by
  cases hd : decCoef cap bs with
  | none => rfl
  | some p => have := decCoef_length cap bs p.1 p.2 hd; omega

theorem all_false_replicate (k : Nat) : (List.replicate k false).all (· == false) = true := by
  simp [List.all_replicate]

theorem eq_replicate_of_all_false (l : List Bool) (h : l.all (· == false) = true) : l = List.replicate l.length false :=
  List.eq_replicate_iff.mpr ⟨rfl, fun b hb => by simpa using List.all_eq_true.mp h b hb⟩

theorem encBits_cons (c : Int) (v : List Int) : encBits (c :: v) = encCoef c ++ encBits v := List.flatMap_cons

theorem le_length_encBits : ∀ v : List Int, 9 * v.length ≤ (encBits v).length
  | [] => Nat.le_refl 0
  | c :: v => by
    have := le_length_encBits v
    rw [encBits_cons, List.length_append, length_encCoef, List.length_cons]
    omega

end Falcon.Spec

/-! `decN` is named in the namespace of the comparison with the reference decoder (Lemmas/RefSigEq), which is stated
in terms of it; `decBits_eq_some_iff` below is `decN_eq_some_iff` with an all-zero rest. -/
namespace Falcon.RefEq
open Falcon

/-- decode n coefficients and return the remaining bits (`Spec.decBits` = this, then "all remaining bits are zero") -/
def decN (cap : Nat) : Nat → List Bool → Option (List Int × List Bool)
  | 0, rest => some ([], rest)
  | n + 1, bs =>
    match Spec.decCoef cap bs with
    | none => none
    | some (c, rest) =>
      match decN cap n rest with
      | none => none
      | some (cs, R) => some (c :: cs, R)

theorem decN_succ (cap n : Nat) (bs : List Bool) :
    decN cap (n + 1) bs = (Spec.decCoef cap bs).bind fun p => (decN cap n p.2).map fun q => (p.1 :: q.1, q.2) := by
  rw [decN]
  cases Spec.decCoef cap bs with
  | none => rfl
  | some p => obtain ⟨c, rest⟩ := p; cases h : decN cap n rest <;> simp [h]

theorem decBits_eq_decN (cap : Nat) : ∀ (n : Nat) (bs : List Bool),
    Spec.decBits cap n bs = (decN cap n bs).bind fun q => if q.2.all (· == false) then some q.1 else none
  | 0, bs => rfl
  | n + 1, bs => by
    simp only [Spec.decBits, decN]
    cases Spec.decCoef cap bs with
    | none => rfl
    | some p =>
      simp only [decBits_eq_decN cap n p.2]
      cases decN cap n p.2 with
      | none => rfl
      | some q => simp only [Option.bind_some]; cases q.2.all (· == false) <;> rfl

theorem decN_eq_some_iff {cap : Nat} : ∀ {n : Nat} {bs : List Bool} {cs : List Int} {R : List Bool},
    decN cap n bs = some (cs, R) ↔
      cs.length = n ∧ bs = Spec.encBits cs ++ R ∧ ∀ c ∈ cs, c.natAbs / 128 = 0 ∨ c.natAbs / 128 < cap
  | 0, bs, cs, R => by
    rw [decN, Option.some.injEq, Prod.mk.injEq, List.length_eq_zero_iff]
    constructor
    · rintro ⟨rfl, rfl⟩; exact ⟨rfl, rfl, fun _ h => nomatch h⟩
    · rintro ⟨rfl, rfl, _⟩; exact ⟨rfl, rfl⟩
  | n + 1, bs, cs, R => by
    rw [decN_succ]
    constructor
    · intro h
      obtain ⟨⟨c, rest⟩, hc, h⟩ := Option.bind_eq_some_iff.mp h
      obtain ⟨⟨cs', R'⟩, hd, e⟩ := Option.map_eq_some_iff.mp h
      cases e
      obtain ⟨rfl, hk⟩ := Spec.decCoef_inv cap bs c rest hc
      obtain ⟨rfl, rfl, h3⟩ := decN_eq_some_iff.mp hd
      exact ⟨rfl, by rw [Spec.encBits_cons, List.append_assoc], List.forall_mem_cons.mpr ⟨hk, h3⟩⟩
    · rintro ⟨h1, rfl, h3⟩
      match cs, h1 with
      | c :: cs', h1 =>
        rw [Spec.encBits_cons, List.append_assoc, Spec.decCoef_encCoef cap c _ (h3 c (List.mem_cons_self ..)), Option.bind_some,
          decN_eq_some_iff.mpr ⟨Nat.succ.inj h1, rfl, fun x hx => h3 x (List.mem_cons_of_mem _ hx)⟩]
        rfl
end Falcon.RefEq

namespace Falcon.Spec
open Falcon.RefEq (decN decBits_eq_decN decN_eq_some_iff)

/-- Algorithm 18 accepts exactly the encodings of `n` coefficients below the cap, followed by zeros -/
theorem decBits_eq_some_iff {cap n : Nat} {bs : List Bool} {v : List Int} :
    decBits cap n bs = some v ↔ v.length = n ∧ (∃ k, bs = encBits v ++ List.replicate k false) ∧
      ∀ c ∈ v, c.natAbs / 128 = 0 ∨ c.natAbs / 128 < cap := by
  rw [decBits_eq_decN, Option.bind_eq_some_iff]
  constructor
  · rintro ⟨⟨cs, R⟩, hd, h⟩
    obtain ⟨hR, hv⟩ := Option.ite_none_right_eq_some.mp h
    cases hv
    obtain ⟨hl, rfl, hcap⟩ := decN_eq_some_iff.mp hd
    exact ⟨hl, ⟨R.length, by rw [← eq_replicate_of_all_false R hR]⟩, hcap⟩
  · rintro ⟨rfl, ⟨k, rfl⟩, h⟩
    exact ⟨(v, _), decN_eq_some_iff.mpr ⟨rfl, rfl, h⟩, if_pos (all_false_replicate k)⟩

theorem decBits_succ (cap n : Nat) (bs : List Bool) :
    decBits cap (n + 1) bs = (decCoef cap bs).bind fun p => (decBits cap n p.2).map (p.1 :: ·) := by
  rw [decBits]
  cases decCoef cap bs with
  | none => rfl
  | some p => cases h : decBits cap n p.2 <;> simp [h]

theorem decBits_short (cap n : Nat) (bs : List Bool) (h : bs.length < 9 * n) : decBits cap n bs = none := by
  cases hd : decBits cap n bs with
  | none => rfl
  | some v =>
    obtain ⟨rfl, ⟨k, rfl⟩, _⟩ := decBits_eq_some_iff.mp hd
    have := le_length_encBits v
    rw [List.length_append] at h
    omega

/-- Algorithm 17 returns `x` exactly when `x` is `L` bytes whose bits are the encoding of `v ≠ []` followed by zeros -/
theorem compressRef_eq_some_iff {v : List Int} {L : Nat} {x : List Nat} :
    compressRef v L = some x ↔
      v ≠ [] ∧ x.length = L ∧ WF x ∧ ∃ k, unpack x = encBits v ++ List.replicate k false := by
  rw [compressRef, compressBits]
  constructor
  · intro h
    split at h
    · cases h
    · rename_i hc
      obtain ⟨h1, h2, h3⟩ := pack_spec L (encBits v ++ List.replicate (8 * L - (encBits v).length) false) (by
        rw [List.length_append, List.length_replicate]; omega)
      cases h
      exact ⟨fun e => hc (Or.inl e), h1, h2, _, h3⟩
  · rintro ⟨hne, rfl, hw, k, hk⟩
    have hlen := congrArg List.length hk
    rw [unpack_length, List.length_append, List.length_replicate] at hlen
    rw [if_neg fun h => h.elim hne (by omega), (by omega : 8 * x.length - (encBits v).length = k), ← hk,
      Option.map_some, pack_unpack x hw]

theorem compressRef_length {v : List Int} {L : Nat} {x : List Nat} (h : compressRef v L = some x) : x.length = L :=
  (compressRef_eq_some_iff.mp h).2.1

theorem decompressRef_eq_some_iff {cap : Nat} {x : List Nat} (hx : WF x) {n : Nat} {v : List Int} :
    decompressRef cap x n = some v ↔
      v.length = n ∧ (∀ c ∈ v, c.natAbs / 128 = 0 ∨ c.natAbs / 128 < cap) ∧ compressRef v x.length = some x := by
  rw [compressRef_eq_some_iff, decompressRef]
  constructor
  · intro h
    split at h
    · cases h
    · rename_i hn
      obtain ⟨hl, hk, hcap⟩ := decBits_eq_some_iff.mp h
      exact ⟨hl, hcap, fun e => hn (by rw [← hl, e]; rfl), rfl, hx, hk⟩
  · rintro ⟨rfl, hcap, hne, _, _, hk⟩
    rw [if_neg fun e => hne (List.length_eq_zero_iff.mp e)]
    exact decBits_eq_some_iff.mpr ⟨rfl, hk, hcap⟩

end Falcon.Spec

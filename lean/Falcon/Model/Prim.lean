/-
  Primitives of the executable model: the `Res` type ("Rust would unwind here"), fixed-width
  integer arithmetic in both build modes (`chk = true`: overflow checks on, the debug/test profile;
  `chk = false`: wrapping, the release profile), slice indexing.

  Nothing in `Falcon/Model` imports anything but core Lean, so the line-protocol driver links as a
  `lean_exe`, and nothing is `partial`, so every definition is visible to the kernel.
-/
namespace Falcon

inductive PanicKind where
  | oob        -- index out of bounds / slice out of range
  | overflow   -- arithmetic overflow with overflow checks on
  | other      -- explicit `panic!`, `unwrap` on None, `unreachable!`
deriving Repr, DecidableEq, Inhabited

inductive Res (α : Type) where
  | ok (a : α)
  | panic (why : PanicKind)
deriving Repr, DecidableEq

namespace Res
@[inline] def bind {α β : Type} (r : Res α) (f : α → Res β) : Res β :=
  match r with
  | .ok a => f a
  | .panic w => .panic w

instance : Monad Res where
  pure := .ok
  bind := Res.bind

instance : LawfulMonad Res := LawfulMonad.mk'
  (id_map := fun x => by cases x <;> rfl)
  (pure_bind := fun _ _ => rfl)
  (bind_assoc := fun x _ _ => by cases x <;> rfl)

@[simp] theorem bind_ok {α β : Type} (a : α) (f : α → Res β) : (Res.ok a >>= f) = f a := rfl
@[simp] theorem bind_panic {α β : Type} (w : PanicKind) (f : α → Res β) :
    ((Res.panic w : Res α) >>= f) = Res.panic w := rfl
@[simp] theorem pure_eq {α : Type} (a : α) : (pure a : Res α) = Res.ok a := rfl

theorem bind_eq_ok {α β : Type} {x : Res α} {f : α → Res β} {b : β} :
    (x >>= f) = .ok b ↔ ∃ a, x = .ok a ∧ f a = .ok b := by
  cases x with
  | ok a => exact ⟨fun h => ⟨a, rfl, h⟩, fun ⟨_, ha, h⟩ => Res.ok.inj ha ▸ h⟩
  | panic w => exact ⟨fun h => (nomatch h), fun ⟨_, ha, _⟩ => (nomatch ha)⟩

theorem mapM_ok {α β : Type} {f : α → Res β} {g : α → β} : ∀ {l : List α}, (∀ x ∈ l, f x = .ok (g x)) →
    l.mapM f = .ok (l.map g)
  | [], _ => rfl
  | x :: xs, h => by
    rw [List.mapM_cons, h x (List.mem_cons_self ..), mapM_ok fun y hy => h y (List.mem_cons_of_mem _ hy)]
    rfl

def isOk {α : Type} : Res α → Bool
  | .ok _ => true
  | .panic _ => false

def toString {α : Type} (f : α → String) : Res α → String
  | .ok a => f a
  | .panic _ => "PANIC"
end Res

/-! ### fixed-width integers -/

def wrapU (bits : Nat) (v : Int) : Int := v % (2 : Int) ^ bits
def wrapS (bits : Nat) (v : Int) : Int := (v + (2 : Int) ^ (bits - 1)) % (2 : Int) ^ bits - (2 : Int) ^ (bits - 1)

def inS (bits : Nat) (v : Int) : Bool := decide (-(2 : Int) ^ (bits - 1) ≤ v) && decide (v < (2 : Int) ^ (bits - 1))
def inU (bits : Nat) (v : Int) : Bool := decide (0 ≤ v) && decide (v < (2 : Int) ^ bits)

/-- result of a signed `bits`-wide `+ - *` whose mathematical value is `v` -/
def arithS (chk : Bool) (bits : Nat) (v : Int) : Res Int :=
  if inS bits v then .ok v else if chk then .panic .overflow else .ok (wrapS bits v)

/-- result of an unsigned `bits`-wide `+ - *` whose mathematical value is `v` -/
def arithU (chk : Bool) (bits : Nat) (v : Int) : Res Nat :=
  if inU bits v then .ok v.toNat else if chk then .panic .overflow else .ok (wrapU bits v).toNat

theorem arithU_ok (chk : Bool) (bits : Nat) (v : Int) (h0 : 0 ≤ v) (h1 : v < (2 : Int) ^ bits) :
    arithU chk bits v = .ok v.toNat := by
  simp [arithU, inU, h0, h1]

theorem arithS_ok (chk : Bool) (bits : Nat) (v : Int) (h0 : -(2 : Int) ^ (bits - 1) ≤ v)
    (h1 : v < (2 : Int) ^ (bits - 1)) : arithS chk bits v = .ok v := by
  simp [arithS, inS, h0, h1]

def wrapI16 (v : Int) : Int := wrapS 16 v
def wrapI32 (v : Int) : Int := wrapS 32 v

/-! the widths the model uses, with the bounds as literals (so that `omega` can discharge them) -/

theorem arithS16_ok (chk : Bool) {v : Int} (h0 : -32768 ≤ v) (h1 : v < 32768) : arithS chk 16 v = .ok v :=
  arithS_ok chk 16 v h0 h1
theorem arithS32_ok (chk : Bool) {v : Int} (h0 : -2147483648 ≤ v) (h1 : v < 2147483648) : arithS chk 32 v = .ok v :=
  arithS_ok chk 32 v h0 h1
theorem arithU32_ok (chk : Bool) {v : Int} (h0 : 0 ≤ v) (h1 : v < 4294967296) : arithU chk 32 v = .ok v.toNat :=
  arithU_ok chk 32 v h0 h1
theorem arithU64_ok (chk : Bool) {v : Int} (h0 : 0 ≤ v) (h1 : v < 18446744073709551616) :
    arithU chk 64 v = .ok v.toNat :=
  arithU_ok chk 64 v h0 h1
theorem wrapI16_eq {v : Int} (h0 : -32768 ≤ v) (h1 : v < 32768) : wrapI16 v = v := by
  simp only [wrapI16, wrapS]; omega
theorem wrapI32_eq {v : Int} (h0 : -2147483648 ≤ v) (h1 : v < 2147483648) : wrapI32 v = v := by
  simp only [wrapI32, wrapS]; omega

/-- `xs[i]` on a slice -/
def idx {α : Type} (xs : List α) (i : Nat) : Res α :=
  match xs[i]? with
  | some a => .ok a
  | none => .panic .oob

end Falcon

import Falcon.Lemmas.VerifyAlg
import Falcon.Lemmas.Keys
import Falcon.Lemmas.CodecRefine
import Falcon.Model.Verify

/-!
# C02 — verify accepts exactly what the specification accepts

`Falcon.Verify.verifyCore` is the model of the arithmetic of `falcon::verify`.  The theorems below show
that, on whatever vector `s2` the decompressor returns, it computes exactly the specification's test
`‖(c − s2 ⋆ h mod q, centred)‖² + ‖s2‖² ≤ ⌊β²⌋` (Algorithm 16, lines 3–6) with the constants of the
specification, without overflow in either build mode, and returns `false` when decompression fails.
Together with C07 (the decompressor is Algorithm 18 with a magnitude cap), `cap_is_harmless` (a capped
coefficient is out of bound anyway), C11 (used inside) and C14 (the hashed point) this is the equality with
Algorithm 16; `verifyCore_eq_algorithm16` includes the byte-level decompressor through C07's refinement, and
`verify_bytes_eq_algorithm16` the two `from_bytes` and the hash: the public entry on raw bytes is `specVerifyBytes`.
-/
namespace Falcon.Props.C02
open Falcon Falcon.Verify Falcon.Ntt

/-- the bounds are ⌊β²⌋ of the specification and the comparison is `≤` -/
theorem source_constants :
    Gen.sigBound512 = 34034726 ∧ Gen.sigBound1024 = 70265242 ∧ Gen.verifyCmpLe = true ∧
    Gen.n512 = 512 ∧ Gen.n1024 = 1024 ∧ Gen.fromN512 = 512 ∧ Gen.fromN1024 = 1024 := ⟨rfl, rfl, rfl, rfl, rfl, rfl, rfl⟩

/-- the centred representative of a canonical residue -/
def centred (a : Nat) : Int := if a > 6144 then (a : Int) - 12289 else a

def normSq (l : List Int) : Int := (l.map fun i => i * i).sum

/-- the specification's acceptance test on a decoded s2 (Algorithm 16, lines 3–6) -/
def specAccept (n bound : Nat) (c h : List Nat) (s2 : List Int) : Bool :=
  decide (normSq ((List.zipWith subq c (negacyc n (s2.map Zq.new) h)).map centred) + normSq s2 ≤ (bound : Int))

/-- **verify = the specification's test** on the decoded vector, for both variants, both build modes,
    every hashed point, every public key, every decoder output of the right length; no panic -/
theorem verifyCore_eq_spec (chk : Bool) (d : Nat) (hd : d ≤ 10) (P : Params) (c s h : List Nat) (s2 : List Int)
    (hc : c.length = 2 ^ d) (hh : h.length = 2 ^ d) (hs2 : s2.length = 2 ^ d)
    (hdec : Codec.decompress chk s (2 ^ d) = .ok (some s2)) :
    verifyCore chk P (2 ^ d) c s h = .ok (specAccept (2 ^ d) P.sigBound c h s2) := by
  -- the `some` arm of `verifyCore_eq` is `specAccept` written out
  rw [verifyCore_eq chk d hd P c s h hc hh, hdec]
  rfl

/-- a signature that does not decompress is rejected -/
theorem verifyCore_undecodable (chk : Bool) (P : Params) (N : Nat) (c s h : List Nat)
    (hdec : Codec.decompress chk s N = .ok none) : verifyCore chk P N c s h = .ok false := by
  simp [verifyCore, hdec]

/-- Algorithm 16 on raw bytes, as a specification: decode the body with Algorithm 18 (library cap 95 on the
    unary run), then the norm test -/
def specVerify (n bound : Nat) (c s h : List Nat) : Bool :=
  match Spec.decompressRef 95 s n with
  | none => false
  | some s2 => specAccept n bound c h s2

/-- **verify = Algorithm 16 on raw bytes**: for every n = 2^d ≤ 1024 (in particular 512 and 1024), every
    hashed point, every public key, every signature body (any byte string), both build modes -/
theorem verifyCore_eq_algorithm16 (chk : Bool) (d : Nat) (hd : d ≤ 10) (P : Params) (c s h : List Nat)
    (hs : ∀ b ∈ s, b < 256) (hc : c.length = 2 ^ d) (hh : h.length = 2 ^ d) :
    verifyCore chk P (2 ^ d) c s h = .ok (specVerify (2 ^ d) P.sigBound c s h) := by
  rw [verifyCore_eq chk d hd P c s h hc hh, Codec.decompress_eq_spec chk s hs (2 ^ d) (Nat.pow_pos (by decide)), specVerify]
  cases Spec.decompressRef 95 s (2 ^ d) <;> rfl

/-- the variant's ⌊β²⌋ -/
def bound (N : Nat) : Nat := if N = 512 then 34034726 else 70265242

/-- Algorithm 16 behind the two decoders, as a caller of the public API sees it: `none` when either byte string is
    not the canonical encoding of a signature / public key of this variant (C06), otherwise the verdict of
    Algorithm 16 on (HashToPoint(salt ‖ msg), body, h) -/
def specVerifyBytes (N : Nat) (msg sig pk : List Nat) : Option Bool :=
  match KeyCodec.sigFromBytes N sig, KeyCodec.pkFromBytes N pk with
  | .ok (.ok (salt, s)), .ok (.ok h) => some (specVerify N (bound N) (Hash.hashToPoint (salt ++ msg) N) s h)
  | _, _ => none

/-- **the public entry point = Algorithm 16, for arbitrary bytes**: for both variants, every message, every byte
    string offered as a signature and every byte string offered as a public key, in both build modes, `verify`
    behind the two `from_bytes` calls never panics and returns exactly the specification's verdict.  (Hypothesis
    about SHAKE-256 only: the stream of `salt ‖ msg` has n words below 5q within the model's squeezing budget.) -/
theorem verify_bytes_eq_algorithm16 (chk : Bool) (N : Nat) (hN : N = 512 ∨ N = 1024) (msg sig pk : List Nat)
    (hsig : ∀ x ∈ sig, x < 256) (hpk : ∀ x ∈ pk, x < 256)
    (hhash : ∀ salt s, KeyCodec.sigFromBytes N sig = .ok (.ok (salt, s)) →
      (Hash.hashToPoint (salt ++ msg) N).length = N) :
    Verify.verifyBytes chk N msg sig pk = .ok (specVerifyBytes N msg sig pk) := by
  obtain ⟨rs, hrs⟩ := (KeyCodec.sigFromBytes_decodes N sig).total
  obtain ⟨rp, hrp⟩ := (KeyCodec.pkFromBytes_decodes N pk).total
  rw [verifyBytes, specVerifyBytes, hrs, hrp]
  match rs, rp, hrs, hrp with
  | .error _, _, _, _ => rfl
  | .ok _, .error _, _, _ => rfl
  | .ok (salt, s), .ok h, hrs, hrp =>
    -- the body is part of the signature string, and a decoded key has N coefficients
    obtain ⟨_, _, _, _, rfl⟩ := (KeyCodec.sigFromBytes_ok_iff N sig salt s).mp hrs
    have hl := ((KeyCodec.pkFromBytes_ok_iff N pk h).mp hrp).coef_length
    have hs : ∀ b ∈ s, b < 256 := fun b hb => hsig b (by simp [KeyCodec.sigToBytes, hb])
    have hv : verify chk N msg salt s h = .ok (specVerify N (bound N) (Hash.hashToPoint (salt ++ msg) N) s h) := by
      obtain ⟨d, P, hP, rfl, hd, hb⟩ := params_variant hN
      rw [verify, hP, bound, ← hb]
      exact verifyCore_eq_algorithm16 chk d hd P _ s h hs (hhash salt s hrs) hl
    exact congrArg (· >>= fun r => pure (some r)) hv

/-- the library's magnitude cap (|s2_i| ≤ 12159) never changes the verdict: a coefficient of magnitude
    ≥ 12160 alone exceeds ⌊β²⌋ of either variant -/
theorem cap_is_harmless (x : Int) (hx : 12160 ≤ x.natAbs) : x * x > 70265242 ∧ x * x > 34034726 := by
  have h1 : x * x = (x.natAbs : Int) * (x.natAbs : Int) := (Int.natAbs_mul_self' x).symm
  have h2 : (12160 : Int) * 12160 ≤ (x.natAbs : Int) * (x.natAbs : Int) := by
    have : (12160 : Int) ≤ (x.natAbs : Int) := by omega
    exact Int.mul_le_mul this this (by decide) (by omega)
  omega

/-- non-vacuity: the acceptance test at the boundary, on a concrete tiny instance (n = 2) -/
example : specAccept 2 5 [3, 0] [1, 0] [1, 0] = true ∧ specAccept 2 4 [3, 0] [1, 0] [1, 0] = false := by decide

end Falcon.Props.C02

import Falcon.Lemmas.Karatsuba

/-!
Reduction loops change (F, G) by a multiple of (f, g): `ByMultiple n f g F G F' G'` says (F', G') = (F − K⋆f, G − K⋆g)
for one integer polynomial K.  It is reflexive and transitive, it keeps the lengths and f⋆G − g⋆F (`Solves.of_multiple`),
so each loop (abstract here; big-integer in `KeygenSound`; 32-bit in `EntrySound`) is analysed once, for `ByMultiple`, and
NTRUSolve (`ntruSolve`: the recursion with the extended gcd and the Babai quotients as parameters) is: a base solution,
lifted through the tower (`Solves.lift`), reduced at every level.  Its base case accepts exactly a gcd returned as +1
(`ntruSolve_zero_eq_some_iff`), and with `xgcd` it is the model's `ntruBase` (`ntruBase_eq`, `ntruBase_eq_some_iff`).
-/
namespace Falcon.RingZ

theorem solves_iff_exact {n : Nat} (hn : 0 < n) {f g F G : List Int} :
    (∀ (R : Type) [CommRing R], Solves R n f g F G) ↔
      F.length = n ∧ G.length = n ∧ ntruLhs n f g F G = (12289 : Int) :: List.replicate (n - 1) 0 := by
  constructor
  · intro h
    obtain ⟨hF, hG, _⟩ := h Int
    refine ⟨hF, hG, ev_ext n hn _ _ (ntruLhs_length f g hF hG)
      (by rw [List.length_cons, List.length_replicate, Nat.sub_add_cancel hn]) ?_⟩
    intro R _ ρ hρ
    rw [ev_ntruLhs f g hF hG ρ hρ, (h R).eq ρ hρ, ev_const, Int.cast_ofNat]
  · exact fun ⟨hF, hG, h⟩ R _ => .of_exact hF hG h

/-- (F', G') is (F, G) minus one integer-polynomial multiple of (f, g) -/
def ByMultiple (n : Nat) (f g F G F' G' : List Int) : Prop :=
  ∃ K : List Int, F' = subL F (negacyc n K f) ∧ G' = subL G (negacyc n K g)

section
variable {n : Nat} (hn : 0 < n) {f : List Int} (hf : f.length = n)
include hn hf

omit hn in
theorem sub_mul_length {F : List Int} (hF : F.length = n) (K : List Int) : (subL F (negacyc n K f)).length = n :=
  subL_length hF (negacyc_length n K f hf)

omit hn in
theorem ev_sub_mul {F : List Int} (hF : F.length = n) (K : List Int) {R : Type} [CommRing R] (ρ : R) (hρ : ρ ^ n = -1) :
    ev (subL F (negacyc n K f)) ρ = ev F ρ - ev K ρ * ev f ρ := by
  rw [ev_subL hF (negacyc_length n K f hf), ev_negacyc n K f hf ρ hρ]

theorem sub_zero_mul {F : List Int} (hF : F.length = n) : subL F (negacyc n [] f) = F := by
  refine ev_ext n hn _ _ (sub_mul_length hf hF []) hF fun R _ ρ hρ => ?_
  rw [ev_sub_mul hf hF [] ρ hρ, ev_nil, zero_mul, sub_zero]

theorem sub_sub_mul {F : List Int} (hF : F.length = n) (K K' : List Int) :
    subL (subL F (negacyc n K f)) (negacyc n K' f) = subL F (negacyc n (addPad K K') f) := by
  have l := sub_mul_length hf hF K
  refine ev_ext n hn _ _ (sub_mul_length hf l K') (sub_mul_length hf hF _) fun R _ ρ hρ => ?_
  rw [ev_sub_mul hf l K' ρ hρ, ev_sub_mul hf hF K ρ hρ, ev_sub_mul hf hF _ ρ hρ, ev_addPad]
  ring

/-- the multiplier may be taken with n coefficients -/
theorem mul_reduceCyc (K : List Int) : negacyc n (reduceCyc n K) f = negacyc n K f := by
  refine ev_ext n hn _ _ (negacyc_length n _ f hf) (negacyc_length n _ f hf) fun R _ ρ hρ => ?_
  rw [ev_negacyc n _ f hf ρ hρ, ev_negacyc n _ f hf ρ hρ, ev_reduceCyc n hn _ ρ hρ]
end

namespace ByMultiple
variable {n : Nat} (hn : 0 < n) {f g : List Int} (hf : f.length = n) (hg : g.length = n)
  {F G F' G' F'' G'' : List Int} (hF : F.length = n) (hG : G.length = n)
include hn hf hg hF hG

theorem refl : ByMultiple n f g F G F G :=
  ⟨[], (sub_zero_mul hn hf hF).symm, (sub_zero_mul hn hg hG).symm⟩

omit hn hf hg hF hG in
theorem step (k : List Int) : ByMultiple n f g F G (subL F (negacyc n k f)) (subL G (negacyc n k g)) := ⟨k, rfl, rfl⟩

theorem trans : ByMultiple n f g F G F' G' → ByMultiple n f g F' G' F'' G'' → ByMultiple n f g F G F'' G''
  | ⟨K, h1, h2⟩, ⟨K', h1', h2'⟩ =>
    ⟨addPad K K', by rw [h1', h1, sub_sub_mul hn hf hF], by rw [h2', h2, sub_sub_mul hn hg hG]⟩

theorem cons (k : List Int) (h : ByMultiple n f g (subL F (negacyc n k f)) (subL G (negacyc n k g)) F' G') :
    ByMultiple n f g F G F' G' :=
  trans hn hf hg hF hG (step k) h

omit hn hg hG in
theorem lengthF : ByMultiple n f g F G F' G' → F'.length = n
  | ⟨K, h1, _⟩ => h1 ▸ sub_mul_length hf hF K

omit hn hf hF in
theorem lengthG : ByMultiple n f g F G F' G' → G'.length = n
  | ⟨K, _, h2⟩ => h2 ▸ sub_mul_length hg hG K

omit hn in
theorem ntru {R : Type} [CommRing R] (ρ : R) (hρ : ρ ^ n = -1) : ByMultiple n f g F G F' G' →
    ev f ρ * ev G' ρ - ev g ρ * ev F' ρ = ev f ρ * ev G ρ - ev g ρ * ev F ρ
  | ⟨K, h1, h2⟩ => by
    rw [h1, h2, ev_sub_mul hg hG K ρ hρ, ev_sub_mul hf hF K ρ hρ]
    ring

omit hn in
theorem ev_ntruLhs {R : Type} [CommRing R] (ρ : R) (hρ : ρ ^ n = -1) (m : ByMultiple n f g F G F' G') :
    ev (ntruLhs n f g F' G') ρ = ev (ntruLhs n f g F G) ρ := by
  rw [RingZ.ev_ntruLhs f g (m.lengthF hf hF) (m.lengthG hg hG) ρ hρ, RingZ.ev_ntruLhs f g hF hG ρ hρ,
    m.ntru hf hg hF hG ρ hρ]

/-- … hence coefficient for coefficient: integer lists of length n are determined by their values at the roots of Xⁿ+1 -/
theorem ntruLhs_eq (m : ByMultiple n f g F G F' G') : ntruLhs n f g F' G' = ntruLhs n f g F G :=
  ev_ext n hn _ _ (ntruLhs_length f g (m.lengthF hf hF) (m.lengthG hg hG)) (ntruLhs_length f g hF hG)
    fun _ _ ρ hρ => m.ev_ntruLhs hf hg hF hG ρ hρ

omit hF hG in
theorem reduced : ByMultiple n f g F G F' G' →
    ∃ K : List Int, K.length = n ∧ F' = subL F (negacyc n K f) ∧ G' = subL G (negacyc n K g)
  | ⟨K, h1, h2⟩ => ⟨reduceCyc n K, reduceCyc_length n K, by rw [mul_reduceCyc hn hf, h1], by rw [mul_reduceCyc hn hg, h2]⟩

end ByMultiple

theorem Solves.of_multiple {R : Type} [CommRing R] {n : Nat} {f g F G F' G' : List Int}
    (hf : f.length = n) (hg : g.length = n) (h : Solves R n f g F G) (hm : ByMultiple n f g F G F' G') :
    Solves R n f g F' G' :=
  ⟨hm.lengthF hf h.lenF, hm.lengthG hg h.lenG, fun ρ hρ => (hm.ntru hf hg h.lenF h.lenG ρ hρ).trans (h.eq ρ hρ)⟩

theorem babaiRun_multiple {n : Nat} (hn : 0 < n) {f g : List Int} (hf : f.length = n) (hg : g.length = n) :
    ∀ (ks : List (List Int)) (F G : List Int), F.length = n → G.length = n →
      ByMultiple n f g F G (babaiRun n f g ks (F, G)).1 (babaiRun n f g ks (F, G)).2
  | [], F, G, hF, hG => .refl hn hf hg hF hG
  | k :: ks, F, G, hF, hG => by
    simp only [babaiRun]
    split
    · exact .refl hn hf hg hF hG
    · exact .cons hn hf hg hF hG k
        (babaiRun_multiple hn hf hg ks _ _ (sub_mul_length hf hF k) (sub_mul_length hg hG k))

section
variable {R : Type} [CommRing R]

theorem babaiRun_invariant (n : Nat) (hn : 0 < n) (ρ : R) (hρ : ρ ^ n = -1) (f g : List Int)
    (hf : f.length = n) (hg : g.length = n) : ∀ (ks : List (List Int)) (cF cG : List Int),
    cF.length = n → cG.length = n →
    ev (ntruLhs n f g (babaiRun n f g ks (cF, cG)).1 (babaiRun n f g ks (cF, cG)).2) ρ = ev (ntruLhs n f g cF cG) ρ := by
  intro ks cF cG hF hG
  exact (babaiRun_multiple hn hf hg ks cF cG hF hG).ev_ntruLhs hf hg hF hG ρ hρ

end

/-- NTRUSolve with its two float-steered / external ingredients as parameters: `xg` (extended gcd: (gcd, u, v)) and
    `ks` (the Babai quotient sequences at each level) -/
def ntruSolve (xg : Int → Int → Int × Int × Int) (ks : Nat → List Int → List Int → List (List Int)) :
    Nat → List Int → List Int → Option (List Int × List Int)
  | 0, f, g =>
    match f, g with
    | [f0], [g0] =>
      let (d, u, v) := xg f0 g0
      if d ≠ 1 then none else some ([-v * 12289], [u * 12289])
    | _, _ => none
  | d + 1, f, g =>
    let n := 2 ^ (d + 1)
    match ntruSolve xg ks d (fieldNorm n f) (fieldNorm n g) with
    | none => none
    | some (cF', cG') =>
      let FG := liftStep n f g cF' cG'
      some (babaiRun n f g (ks d FG.1 FG.2) FG)

theorem ntruSolve_zero_eq_some_iff {xg : Int → Int → Int × Int × Int} {ks : Nat → List Int → List Int → List (List Int)}
    {f0 g0 : Int} {cF cG : List Int} :
    ntruSolve xg ks 0 [f0] [g0] = some (cF, cG) ↔
      (xg f0 g0).1 = 1 ∧ cF = [-(xg f0 g0).2.2 * 12289] ∧ cG = [(xg f0 g0).2.1 * 12289] := by
  -- the `let (d, u, v) := xg f0 g0` of the definition is the three projections, by eta
  rw [ntruSolve, Option.ite_none_left_eq_some, not_not, Option.some.injEq, Prod.mk.injEq, eq_comm (b := cF),
    eq_comm (b := cG)]

theorem ntruSolve_sound {R : Type} [CommRing R] (xg : Int → Int → Int × Int × Int)
    (hx : ∀ a b, (xg a b).2.1 * a + (xg a b).2.2 * b = (xg a b).1)
    (ks : Nat → List Int → List Int → List (List Int)) :
    ∀ (d : Nat) (f g cF cG : List Int), f.length = 2 ^ d → g.length = 2 ^ d →
      ntruSolve xg ks d f g = some (cF, cG) → Solves R (2 ^ d) f g cF cG
  | 0, f, g, cF, cG, hf, hg, hs => by
    obtain ⟨f0, rfl⟩ := List.length_eq_one_iff.mp hf
    obtain ⟨g0, rfl⟩ := List.length_eq_one_iff.mp hg
    obtain ⟨hd, rfl, rfl⟩ := ntruSolve_zero_eq_some_iff.mp hs
    exact .base ((hx f0 g0).trans hd)
  | d + 1, f, g, cF, cG, hf, hg, hs => by
    have hpow : 2 ^ (d + 1) = 2 * 2 ^ d := Nat.pow_succ'
    have hm : 0 < 2 ^ d := Nat.two_pow_pos d
    have hn : 0 < 2 ^ (d + 1) := Nat.two_pow_pos (d + 1)
    simp only [ntruSolve] at hs
    split at hs
    · simp at hs
    rename_i cF' cG' hrec
    have lifted := (ntruSolve_sound (R := R) xg hx ks d _ _ cF' cG' (fieldNorm_length hpow f hf)
      (fieldNorm_length hpow g hg) hrec).lift hpow hm hf hg
    obtain ⟨rfl, rfl⟩ : _ = cF ∧ _ = cG := Prod.mk.inj (Option.some.inj hs)
    exact lifted.of_multiple hf hg (babaiRun_multiple hn hf hg _ _ _ lifted.lenF lifted.lenG)

theorem ntruBase_eq (ks : Nat → List Int → List Int → List (List Int)) (a b : Int) :
    ntruSolve xgcd ks 0 [a] [b] = (ntruBase a b).map fun p => ([p.1], [p.2]) := by
  simp only [ntruSolve, ntruBase]
  generalize xgcd a b = t
  obtain ⟨d, u, v⟩ := t
  simp only
  split <;> rfl

/-- what the n = 1 case accepts: the loop's first component is +1 (a gcd returned as −1 is refused) -/
theorem ntruBase_eq_some_iff {a b : Int} {p : Int × Int} :
    ntruBase a b = some p ↔ (xgcd a b).1 = 1 ∧ p = (-(xgcd a b).2.2 * 12289, (xgcd a b).2.1 * 12289) := by
  rw [ntruBase, Option.ite_none_left_eq_some, not_not, Option.some.injEq, eq_comm (b := p)]

end Falcon.RingZ

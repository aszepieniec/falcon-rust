import Falcon.Model.FftFlt

/-!
The depth-first network `nttRecO / inttRecO` for ANY operations record: lengths and an invariant of the outputs; and the
schoolbook negacyclic product written with an operations record; for the f64 instance the lengths of `fft` and `ifft`
(`fft_length`, `ifft_length`, through `log2_pow`).  Before them, the facts about `zipWith` all this rests on, above all
the one by which both round trips recombine the outputs of a layer.  Core Lean only.
-/

namespace List
variable {α β γ δ ε : Type} {f : α → β → γ} {l₁ : List α} {l₂ : List β}

theorem forall_mem_zipWith {P : γ → Prop} (hf : ∀ u v, P (f u v)) : ∀ y ∈ zipWith f l₁ l₂, P y := by
  intro y hy
  obtain ⟨i, _, rfl⟩ := mem_iff_getElem.mp hy
  rw [getElem_zipWith]; exact hf _ _

theorem length_zipWith_eq (f : α → β → γ) {n : Nat} (h₁ : l₁.length = n) (h₂ : l₂.length = n) :
    (zipWith f l₁ l₂).length = n := by
  rw [length_zipWith, h₁, h₂, Nat.min_self]

theorem map_zipWith_hom {φ : α → β} {op : α → α → α} {op' : β → β → β} (h : ∀ u v, φ (op u v) = op' (φ u) (φ v))
    (a b : List α) : (zipWith op a b).map φ = zipWith op' (a.map φ) (b.map φ) := by
  rw [map_zipWith, zipWith_map]
  simp only [h]

/-! ### layers: both outputs of a butterfly layer are `zipWith`s over the same two halves, so recombining them
    pointwise is one map over a half, given the identity between scalars -/

section
variable {h : γ → δ → ε} {g : α → β → δ} (hl : l₁.length = l₂.length)
include hl

theorem zipWith_zipWith_eq_map_left {k : α → ε} (hk : ∀ u v, h (f u v) (g u v) = k u) :
    zipWith h (zipWith f l₁ l₂) (zipWith g l₁ l₂) = l₁.map k :=
  ext_getElem (by simp [hl]) fun i _ _ => by simp [hk]

theorem zipWith_zipWith_eq_map_right {k : β → ε} (hk : ∀ u v, h (f u v) (g u v) = k v) :
    zipWith h (zipWith f l₁ l₂) (zipWith g l₁ l₂) = l₂.map k :=
  ext_getElem (by simp [hl]) fun i _ _ => by simp [hk]

end

end List

namespace Falcon.FftFlt

variable {α : Type}

theorem halves_length_two_mul {a : List α} {h : Nat} (ha : a.length = 2 * h) :
    (a.take h).length = h ∧ (a.drop h).length = h := by
  rw [List.length_take, List.length_drop, ha]; omega

theorem halves_length {a : List α} {d : Nat} (h : a.length = 2 ^ (d + 1)) :
    (a.take (2 ^ d)).length = 2 ^ d ∧ (a.drop (2 ^ d)).length = 2 ^ d :=
  halves_length_two_mul (h.trans Nat.pow_succ')

theorem zipWith_halves_length {a : List α} {d : Nat} (h : a.length = 2 ^ (d + 1)) (f : α → α → α) :
    (List.zipWith f (a.take (2 ^ d)) (a.drop (2 ^ d))).length = 2 ^ d :=
  List.length_zipWith_eq f (halves_length h).1 (halves_length h).2

theorem nttRecO_length (o : Ops α) (T : Nat → α) : ∀ d k (a : List α), a.length = 2 ^ d →
    (nttRecO o T d k a).length = 2 ^ d
  | 0, _, _, h => h
  | d + 1, k, a, h => by
    rw [nttRecO, List.length_append, nttRecO_length o T d _ _ (zipWith_halves_length h _),
      nttRecO_length o T d _ _ (zipWith_halves_length h _), Nat.pow_succ, Nat.mul_two]

theorem inttRecO_length (o : Ops α) (TI : Nat → α) : ∀ d k (a : List α), a.length = 2 ^ d →
    (inttRecO o TI d k a).length = 2 ^ d
  | 0, _, _, h => h
  | d + 1, k, a, h => by
    have hx := inttRecO_length o TI d (2 * k) _ (halves_length h).1
    have hy := inttRecO_length o TI d (2 * k + 1) _ (halves_length h).2
    rw [inttRecO, List.length_append, List.length_zipWith_eq _ hx hy, List.length_zipWith_eq _ hx hy, Nat.pow_succ,
      Nat.mul_two]

theorem nttRecO_forall (o : Ops α) (T : Nat → α) (P : α → Prop) (hadd : ∀ u v, P (o.add u v))
    (hsub : ∀ u v, P (o.sub u v)) : ∀ d k (a : List α), (∀ x ∈ a, P x) → ∀ x ∈ nttRecO o T d k a, P x
  | 0, _, _, h => h
  | d + 1, k, a, _ => by
    intro x hx
    simp only [nttRecO, List.mem_append] at hx
    rcases hx with hx | hx
    · exact nttRecO_forall o T P hadd hsub d _ _ (List.forall_mem_zipWith fun u v => hadd u _) x hx
    · exact nttRecO_forall o T P hadd hsub d _ _ (List.forall_mem_zipWith fun u v => hsub u _) x hx

/-- X·p in R[X]/(Xⁿ+1) with the operations `o` (`z` is the zero) -/
def mulXO (o : Ops α) (z : α) (p : List α) : List α :=
  match p.getLast? with
  | none => []
  | some l => o.sub z l :: p.dropLast

/-- schoolbook negacyclic product in Horner form with the operations `o`.  The same product is written out for `Ntt` and `Zp`
    (fixed operations, as the statements name them), `RingZ` (ℤ) and `NttG` (a ring); the bridges: `Ntt.negacyc_eq` /
    `Zp.negacyc_eq` (= `ModNtt.negacyc`, which is this at `ops m`), `ModNtt.cast_negacyc` and `RingZ.map_negacyc` (casts to
    `NttG.negacyc`), `map_negacycO` (any `Ops.Hom`) -/
def negacycO (o : Ops α) (z : α) (n : Nat) : List α → List α → List α
  | [], _ => List.replicate n z
  | c :: cs, b => List.zipWith o.add (b.map (o.mul c)) (mulXO o z (negacycO o z n cs b))

theorem negacycO_forall (o : Ops α) (z : α) (n : Nat) (P : α → Prop) (hadd : ∀ u v, P (o.add u v)) (hz : P z) :
    ∀ (a b : List α), ∀ x ∈ negacycO o z n a b, P x
  | [], _ => by intro x hx; rw [(List.mem_replicate.mp hx).2]; exact hz
  | _ :: _, _ => List.forall_mem_zipWith hadd

theorem log2_pow (j : Nat) : log2 (2 ^ j) = j := Nat.log2_two_pow

theorem fft_length (a : List C) (j : Nat) (h : a.length = 2 ^ j) : (fft a).length = 2 ^ j := by
  unfold fft; rw [h, log2_pow]; exact nttRecO_length _ _ _ _ _ h

theorem ifft_length (a : List C) (j : Nat) (h : a.length = 2 ^ j) : (ifft a).length = 2 ^ j := by
  unfold ifft; simp only [List.length_map]; rw [h, log2_pow]; exact inttRecO_length _ _ _ _ _ h

end Falcon.FftFlt

import Falcon.Lemmas.ModNtt
import Falcon.Lemmas.ZpTables

/-!
`Falcon.Zp` (arithmetic mod p = 1073754113 on canonical representatives) as an instance of `ModNtt`, through the network at `zpOps`:
bridges as in `NttZMod`; `intt_ntt`, `ntt_mul` for 2 ≤ n ≤ 1024 (`hd1 : 1 ≤ d`: the model's `intt`, like `ifft_inplace`, has no n⁻¹ for n = 1).
-/
namespace Falcon.Zp
open Falcon Falcon.FftFlt

abbrev Fp := ZMod 1073754113

theorem q_eq : p = 1073754113 := rfl

def zpOps : Ops Nat := ⟨addp, subp, mul⟩

theorem nttRec_eq_O : ∀ (d k : Nat) (a : List Nat), nttRec d k a = nttRecO zpOps T d k a
  | 0, _, _ => rfl
  | d + 1, k, a => by simp only [nttRec, nttRecO, nttRec_eq_O d, zpOps]

theorem inttRec_eq_O : ∀ (d k : Nat) (a : List Nat), inttRec d k a = inttRecO zpOps TI d k a
  | 0, _, _ => rfl
  | d + 1, k, a => by simp only [inttRec, inttRecO, inttRec_eq_O d, zpOps]

theorem ntt_eq (d : Nat) (a : List Nat) : ntt d a = ModNtt.ntt 1073754113 T d a := nttRec_eq_O d 1 a

theorem hadamard_eq (a b : List Nat) : hadamard a b = ModNtt.hadamard 1073754113 a b := rfl

theorem intt_eq {d v : Nat} {a : List Nat} (h : Gen.u32Ninv.lookup a.length = some v) :
    intt d a = .ok (ModNtt.intt 1073754113 TI d v a) := by
  simp only [intt, h, inttRec_eq_O]; rfl

theorem mulX_eq (v : List Nat) : mulX v = mulXO zpOps 0 v := by
  unfold mulX mulXO; cases v.getLast? <;> rfl

theorem negacyc_eq (n : Nat) : ∀ (a b : List Nat), negacyc n a b = ModNtt.negacyc 1073754113 n a b
  | [], _ => rfl
  | x :: xs, b => by
    unfold negacyc ModNtt.negacyc negacycO
    rw [negacyc_eq n xs b, mulX_eq]; rfl

theorem tables : ModNtt.Tables 1073754113 T TI 10 := ModNtt.tables_of_tablesOK tablesOK_true

theorem ninv_spec : ∀ d, d ≤ 10 → 1 ≤ d →
    ∃ v, Gen.u32Ninv.lookup (2 ^ d) = some v ∧ 2 ^ d * v % 1073754113 = 1 := by
  decide

theorem intt_ok {d : Nat} (hd : d ≤ 10) (hd1 : 1 ≤ d) {a : List Nat} (ha : a.length = 2 ^ d) :
    ∃ v, intt d a = .ok (ModNtt.intt 1073754113 TI d v a) ∧ 2 ^ d * v % 1073754113 = 1 := by
  obtain ⟨v, hv1, hv2⟩ := ninv_spec d hd hd1
  exact ⟨v, intt_eq (ha ▸ hv1), hv2⟩

/-- the form in which the theorems of `ModNtt` are brought to `intt`: they hold for every scale `v` with 2^d · v = 1 -/
theorem intt_of {d : Nat} (hd : d ≤ 10) (hd1 : 1 ≤ d) {a r : List Nat} (ha : a.length = 2 ^ d)
    (h : ∀ v, 2 ^ d * v % 1073754113 = 1 → ModNtt.intt 1073754113 TI d v a = r) : intt d a = .ok r := by
  obtain ⟨v, hv1, hv2⟩ := intt_ok hd hd1 ha
  rw [hv1, h v hv2]

theorem intt_ntt (d : Nat) (hd : d ≤ 10) (hd1 : 1 ≤ d) (a : List Nat) (hl : a.length = 2 ^ d) (hc : ∀ x ∈ a, x < 1073754113) :
    intt d (ntt d a) = .ok a := by
  rw [ntt_eq]
  exact intt_of hd hd1 (ModNtt.ntt_length 1073754113 T d a hl) fun _ hv => ModNtt.intt_ntt (tables.mono hd) hv hl hc

theorem ntt_mul (d : Nat) (hd : d ≤ 10) (hd1 : 1 ≤ d) (a b : List Nat) (hla : a.length = 2 ^ d) (hlb : b.length = 2 ^ d) :
    intt d (hadamard (ntt d a) (ntt d b)) = .ok (negacyc (2 ^ d) a b) := by
  rw [ntt_eq, ntt_eq, hadamard_eq, negacyc_eq]
  exact intt_of hd hd1
    (ModNtt.hadamard_length 1073754113 (ModNtt.ntt_length 1073754113 T d a hla) (ModNtt.ntt_length 1073754113 T d b hlb))
    fun _ hv => ModNtt.ntt_mul (tables.mono hd) hv hla hlb

end Falcon.Zp

import Falcon.Lemmas.ZqBasic

/-!
# C12 (part 1) — arithmetic modulo q = 12289 is exact and canonical

The element-wise theorems of C12, on the model `Falcon.Zq` of `falcon_field.rs`, for both build modes (`chk`), all
canonical operands and all conversion inputs (`Felt::new` and `balanced_value` through the facts of Lemmas/ZqBasic).
With them the addition chain of `inverse_or_zero` as pure `Nat` arithmetic (`mulN`, `invN`, `inv_eq_invN`); that the chain
inverts needs the field (`Batch.mul_invN`, `Batch.invN_spec` in Lemmas/BatchInv) and is `inv_exact` in
`Falcon/Props/C12.lean`, which lists this file for the audit: every non-private theorem here is audited as a theorem of C12.  Core Lean only.
-/
namespace Falcon.Props.C12
open Falcon Falcon.Zq

/-- the modulus extracted from the source is the one the property names -/
theorem q_is_12289 : Zq.q = 12289 := rfl

/-- addition returns the canonical representative of the sum -/
theorem add_exact (a b : Nat) (ha : a < q) (hb : b < q) :
    add a b = (a + b) % q ∧ add a b < q := by
  simp only [q, Gen.q, add] at ha hb ⊢
  have hs : a + b < 4294967296 := by omega
  rw [Nat.mod_eq_of_lt hs]
  by_cases h : a + b < 12289
  · -- the subtraction borrows: d = s + 2^32 − q, and adding q back wraps round to s
    have hd : a + b + 4294967296 - 12289 + 12289 * 1 = a + b + 4294967296 := by omega
    simp only [h, decide_true, if_true]
    rw [Nat.mod_eq_of_lt (by omega : a + b + 4294967296 - 12289 < 4294967296), hd, Nat.add_mod_right,
      Nat.mod_eq_of_lt hs, Nat.mod_eq_of_lt h]
    exact ⟨rfl, h⟩
  · -- no borrow: d = s − q < q, and nothing is added
    have hd : a + b + 4294967296 - 12289 = a + b - 12289 + 4294967296 := by omega
    have hlt : a + b - 12289 < 12289 := by omega
    simp only [h, decide_false, Bool.false_eq_true, if_false]
    rw [hd, Nat.add_mod_right, Nat.mul_zero, Nat.add_zero, Nat.mod_mod, Nat.mod_eq_of_lt (Nat.lt_trans hlt (by decide)),
      Nat.mod_eq_sub_mod (Nat.le_of_not_lt h), Nat.mod_eq_of_lt hlt]
    exact ⟨rfl, hlt⟩

/-- negation never overflows on canonical input and returns (q - a) mod q -/
theorem neg_exact (chk : Bool) (a : Nat) (ha : a < q) :
    neg chk a = .ok ((q - a) % q) ∧ (q - a) % q < q := by
  simp only [q, Gen.q, neg] at ha ⊢
  refine ⟨?_, Nat.mod_lt _ (by decide)⟩
  -- Q − a does not underflow: as an integer it is the natural number 12289 − a, which fits u32
  have hsub : ((12289 : Nat) : Int) - (a : Int) = ((12289 - a : Nat) : Int) := (Int.ofNat_sub (Nat.le_of_lt ha)).symm
  have hlt : ((12289 - a : Nat) : Int) < 4294967296 := by omega
  rw [hsub, arithU32_ok chk (Int.natCast_nonneg _) hlt, Res.bind_ok, Int.toNat_natCast]
  by_cases h0 : a = 0
  · subst h0; exact arithU32_ok chk (by decide) (by decide)
  · -- a ≠ 0: the factor is 1, and 12289 − a < 12289 is its own residue
    rw [if_pos h0, Int.mul_one, arithU32_ok chk (Int.natCast_nonneg _) hlt, Int.toNat_natCast,
      Nat.mod_eq_of_lt (Nat.sub_lt (by decide) (Nat.pos_of_ne_zero h0))]

/-- subtraction returns the canonical representative of the difference -/
theorem sub_exact (chk : Bool) (a b : Nat) (ha : a < q) (hb : b < q) :
    sub chk a b = .ok ((a + q - b) % q) ∧ (a + q - b) % q < q := by
  obtain ⟨hn, hlt⟩ := neg_exact chk b hb
  -- `sub` is `add a (neg b)`, that is (a + (q − b) % q) % q = (a + (q − b)) % q
  rw [sub, hn, Res.bind_ok, Res.pure_eq, (add_exact a _ ha hlt).1, Nat.add_mod_mod, ← Nat.add_sub_assoc (Nat.le_of_lt hb)]
  exact ⟨rfl, Nat.mod_lt _ (by decide)⟩

/-- multiplication never overflows on canonical input and returns a·b mod q -/
theorem mul_exact (chk : Bool) (a b : Nat) (ha : a < q) (hb : b < q) :
    mul chk a b = .ok (a * b % q) ∧ a * b % q < q := by
  simp only [q, Gen.q, mul] at ha hb ⊢
  refine ⟨?_, Nat.mod_lt _ (by decide)⟩
  have hab : a * b < 12289 * 12289 := Nat.mul_lt_mul'' ha hb
  rw [← Int.natCast_mul, arithU32_ok chk (Int.natCast_nonneg _) (by omega), Int.toNat_natCast]
  rfl

/-- the centred representative is in [-6144, 6144] and congruent to the residue; no i16 overflow -/
theorem balanced_exact (chk : Bool) (a : Nat) (ha : a < q) :
    ∃ v : Int, balanced chk a = .ok v ∧ -6144 ≤ v ∧ v ≤ 6144 ∧ (v - a) % (q : Int) = 0 := by
  simp only [q, Gen.q] at ha ⊢
  refine ⟨_, balanced_eq chk a ha, ?_⟩
  split <;> omega

/-- converting any 16-bit signed integer yields the canonical representative of its class -/
theorem new_canonical (v : Int) (_h : -32768 ≤ v ∧ v < 32768) :
    new v < q ∧ ((new v : Nat) : Int) = v % (q : Int) ∧ ((new v : Int) - v) % (q : Int) = 0 :=
  ⟨new_lt v, new_cast v, by rw [new_cast]; simp only [q, Gen.q]; omega⟩

def mulN (a b : Nat) : Nat := a * b % 12289

/-- the addition chain of `inverse_or_zero` on canonical representatives -/
def invN (a : Nat) : Nat :=
  let two := mulN a a
  let three := mulN two a
  let six := mulN three three
  let twelve := mulN six six
  let fifteen := mulN twelve three
  let thirty := mulN fifteen fifteen
  let sixty := mulN thirty thirty
  let sixtyThree := mulN sixty three
  let sq := mulN sixtyThree sixtyThree
  let qu := mulN sq sq
  let oc := mulN qu qu
  let hx := mulN oc oc
  let tt := mulN hx hx
  let sf := mulN tt tt
  let allOnes := mulN sf sixtyThree
  let twoE12 := mulN allOnes a
  let twoE13 := mulN twoE12 twoE12
  mulN twoE13 allOnes

theorem mulN_lt (a b : Nat) : mulN a b < q := Nat.mod_lt _ (by decide)

private theorem mul_bind {β : Type} (chk : Bool) (a b : Nat) (ha : a < q) (hb : b < q) (f : Nat → Res β) :
    (mul chk a b >>= f) = f (mulN a b) := by
  rw [(mul_exact chk a b ha hb).1]; rfl

/-- on canonical input no step of the chain overflows, in either build mode -/
theorem inv_eq_invN (chk : Bool) (a : Nat) (ha : a < q) : inv chk a = .ok (invN a) := by
  unfold inv invN
  -- every `mul … >>= f` of the chain becomes `f (mulN …)`; the last `mul` is not under a bind
  simp (disch := first | exact ha | exact mulN_lt _ _) only [mul_bind]
  rw [(mul_exact chk _ _ (mulN_lt _ _) (mulN_lt _ _)).1]; rfl

/-! ### non-vacuity: concrete canonical operands meet the hypotheses and the conclusions compute -/
example : add 12288 12288 = 12287 := by decide
example : sub true 0 1 = .ok 12288 := by decide
example : mul true 12288 12288 = .ok 1 := by decide
example : inv true 2 = .ok 6145 := by decide
example : balanced true 6145 = .ok (-6144) := by decide
example : new (-12289) = 0 ∧ new (-32768) = 4099 ∧ new (-1) = 12288 := by decide

end Falcon.Props.C12

import Falcon.Model.Sampler
import Mathlib.Data.Finset.Card
import Mathlib.Order.Interval.Finset.Nat

/-!
The integer cores of the sampler, each by the one fact that governs it.
* `berLoop` is the lexicographic comparison of byte strings, and among strings of one length that is the order of the
  big-endian numbers `beBytes` (`berLoop_neg_iff`).
* Counting the entries of a decreasing table above `u` inverts the table (`count_gt_iff`).
* Along nondecreasing coefficients a Horner step `y ↦ c - ⌊z·y / 2^63⌋` stays in `[0, c]` (`horner_range`).
-/
namespace Falcon.Sampler

/-- a smaller leading digit wins whatever follows: b·P + v < (b + 1)·P ≤ d·P -/
theorem lead_lt {P b d v : Nat} (v' : Nat) (hv : v < P) (h : b < d) : b * P + v < d * P + v' :=
  calc b * P + v < (b + 1) * P := by rw [Nat.succ_mul]; exact Nat.add_lt_add_left hv _
    _ ≤ d * P := Nat.mul_le_mul_right _ h
    _ ≤ d * P + v' := Nat.le_add_right ..

theorem beBytes_lt : ∀ bs : List Nat, (∀ b ∈ bs, b < 256) → beBytes bs < 256 ^ bs.length
  | [], _ => Nat.one_pos
  | b :: bs, h => by
    have ih := beBytes_lt bs fun x hx => h x (List.mem_cons_of_mem _ hx)
    rw [List.length_cons, Nat.pow_succ']
    exact lead_lt 0 ih (h b (List.mem_cons_self ..))

theorem beBytes_cons_lt_cons {b d : Nat} {bs ds : List Nat} (hl : bs.length = ds.length)
    (hbs : ∀ x ∈ bs, x < 256) (hds : ∀ x ∈ ds, x < 256) :
    beBytes (b :: bs) < beBytes (d :: ds) ↔ b < d ∨ (b = d ∧ beBytes bs < beBytes ds) := by
  have hv := beBytes_lt bs hbs
  have hv' := beBytes_lt ds hds
  simp only [beBytes, ← hl] at hv' ⊢
  rcases Nat.lt_trichotomy b d with h | rfl | h
  · have := lead_lt (beBytes ds) hv h; omega
  · omega
  · have := lead_lt (beBytes bs) hv' h; omega

theorem berLoop_neg_iff (z : Nat) : ∀ (is bs : List Nat), bs.length = is.length → (∀ b ∈ bs, b < 256) →
    ∃ w, berLoop z is bs = .ok w ∧ (w < 0 ↔ beBytes bs < beBytes (is.map fun i => z / 2 ^ i % 256))
  | [], [], _, _ => ⟨0, rfl, by simp [beBytes]⟩
  | i :: is, b :: bs, hl, hb => by
    have hl' : bs.length = is.length := Nat.succ.inj hl
    have hbs : ∀ x ∈ bs, x < 256 := fun x hx => hb x (List.mem_cons_of_mem _ hx)
    obtain ⟨w, hw, hiff⟩ := berLoop_neg_iff z is bs hl' hbs
    rw [List.map_cons, beBytes_cons_lt_cons (by simpa using hl') hbs
      (List.forall_mem_map.mpr fun _ _ => Nat.mod_lt _ (by decide)), ← hiff]
    simp only [berLoop]
    generalize z / 2 ^ i % 256 = m  -- the byte of z at shift i: from here on only b, m and w matter
    split
    · rename_i hne  -- the leading bytes differ: their difference is the result, whatever follows
      exact ⟨_, rfl, by omega⟩
    · rename_i heq  -- equal leading bytes: the rest decides
      exact ⟨w, hw, by omega⟩

theorem berLoop_total (z : Nat) : ∀ (is bs : List Nat), is.length ≤ bs.length → ∃ w, berLoop z is bs = .ok w
  | [], _, _ => ⟨0, rfl⟩
  | _ :: is, b :: bs, h => by
    simp only [berLoop]
    split
    · exact ⟨_, rfl⟩
    · exact berLoop_total z is bs (Nat.le_of_succ_le_succ h)

theorem berLoop_self (z : Nat) : ∀ is : List Nat, berLoop z is (is.map fun i => z / 2 ^ i % 256) = .ok 0
  | [] => rfl
  | i :: is => by simp [berLoop, berLoop_self z is]

theorem beBytes_shifts (z lo : Nat) : ∀ n : Nat,
    beBytes (((List.range n).map fun k => z / 2 ^ (lo + k * 8) % 256).reverse) = z / 2 ^ lo % 256 ^ n
  | 0 => by simp [beBytes, Nat.mod_one]
  | n + 1 => by
    have h256 : (256 : Nat) ^ n = 2 ^ (n * 8) := by rw [Nat.mul_comm, Nat.pow_mul]
    rw [List.range_succ, List.map_append, List.reverse_append]
    simp only [List.map_cons, List.map_nil, List.reverse_cons, List.reverse_nil, List.nil_append, List.cons_append,
      beBytes, List.length_reverse, List.length_map, List.length_range, beBytes_shifts z lo n]
    -- the new leading byte is digit n of z / 2^lo in base 256 (`Nat.mod_pow_succ`)
    rw [Nat.pow_add, ← Nat.div_div_eq_div_mul, ← h256, Nat.mod_pow_succ, Nat.mul_comm, Nat.add_comm]

theorem berShifts_eq : berShifts = [56, 48, 40, 32, 24, 16, 8] := by decide

theorem beBytes_threshold (z : Nat) :
    beBytes ([56, 48, 40, 32, 24, 16, 8].map fun i => z / 2 ^ i % 256) = z / 2 ^ 8 % 2 ^ 56 :=
  beBytes_shifts z 8 7

/-- for `e ≥ 1` the subtraction `2e − 1` does not underflow: what is left of `ber_exp` is the comparison loop -/
theorem berExpCore_eq (chk : Bool) {e : Nat} (he : 1 ≤ e) (s : Nat) (bytes : List Nat) :
    berExpCore chk e s bytes =
      berLoop ((e * 2 - 1) / 2 ^ min s 63 % 2 ^ 64) berShifts bytes >>= fun w => pure (decide (w < 0)) := by
  rw [berExpCore, if_pos (by omega : e * 2 ≥ 1)]; rfl

theorem count_gt_iff (u : Nat) : ∀ (l : List Nat), l.Pairwise (· > ·) → ∀ k,
    (k < (l.filter fun r => decide (u < r)).length ↔ u < l.getD k 0)
  | [], _, k => by simp
  | a :: rest, hd, k => by
    obtain ⟨hbelow, hrest⟩ := List.pairwise_cons.mp hd
    have ih := count_gt_iff u rest hrest
    by_cases hu : u < a
    · rw [List.filter_cons_of_pos (p := fun r => decide (u < r)) (decide_eq_true hu)]
      cases k with
      | zero => exact iff_of_true (Nat.succ_pos _) hu
      | succ k => exact Nat.succ_lt_succ_iff.trans (ih k)
    · -- a ≤ u, so nothing further down the table exceeds u either
      have hnone : rest.filter (fun r => decide (u < r)) = [] :=
        List.filter_eq_nil_iff.mpr fun x hx => by have := hbelow x hx; simp; omega
      rw [List.filter_cons_of_neg (by simpa using hu), hnone]
      refine iff_of_false (Nat.not_lt_zero _) ?_
      cases k with
      | zero => exact hu
      | succ k => rw [List.getD_cons_succ, ← ih k, hnone]; exact Nat.not_lt_zero k

theorem rcdt_decreasing : Gen.rcdt.Pairwise (· > ·) := by decide

theorem rcdt_le_two72 : ∀ k, k < 18 → Gen.rcdt.getD k 0 ≤ 2 ^ 72 := by decide

theorem card_filter_range_eq {N lo hi : Nat} {p : Nat → Prop} [DecidablePred p] (hhi : hi ≤ N)
    (h : ∀ x < N, p x ↔ lo ≤ x ∧ x < hi) : ((Finset.range N).filter p).card = hi - lo := by
  rw [← Nat.card_Ico]
  congr 1
  ext x
  simp only [Finset.mem_filter, Finset.mem_range, Finset.mem_Ico]
  exact ⟨fun ⟨hx, hp⟩ => (h x hx).mp hp, fun hx => ⟨by omega, (h x (by omega)).mpr hx⟩⟩

/-- one Horner step from `y ≤ cu`: `⌊z·y / 2^63⌋ ≤ y` as z < 2^63, so the subtraction stays in u64 -/
theorem hornerStep_eq (chk : Bool) {z y cu : Nat} (hz : z < 2 ^ 63) (hy : y ≤ cu) (hcu : cu < 2 ^ 64) :
    hornerStep chk z y cu = .ok (cu - z * y / 2 ^ 63) ∧ z * y / 2 ^ 63 ≤ y := by
  have hq : z * y / 2 ^ 63 ≤ y := Nat.div_le_of_le_mul (Nat.mul_le_mul_right y (Nat.le_of_lt hz))
  refine ⟨?_, hq⟩
  have hle : z * y / 2 ^ 63 ≤ cu := hq.trans hy
  -- the quotient is below 2^64, and cu − quotient is a natural number below 2^64
  rw [hornerStep, Nat.mod_eq_of_lt (Nat.lt_of_le_of_lt hle hcu), ← Int.ofNat_sub hle,
    arithU64_ok chk (Int.natCast_nonneg _) (Int.ofNat_lt.mpr (Nat.lt_of_le_of_lt (Nat.sub_le _ _) hcu)),
    Int.toNat_natCast]

theorem horner_append (chk : Bool) (z : Nat) : ∀ (cs : List Nat) (c y : Nat),
    horner chk z (cs ++ [c]) y = (horner chk z cs y >>= fun y1 => hornerStep chk z y1 c)
  | [], c, y => by cases h : hornerStep chk z y c <;> simp [horner, h]
  | a :: rest, c, y => by
    simp only [List.cons_append, horner]
    cases hornerStep chk z y a with
    | ok y' => simp only [Res.bind_ok, horner_append chk z rest]
    | panic k => rfl

theorem horner_range (chk : Bool) {z : Nat} (hz : z < 2 ^ 63) (y : Nat) : ∀ (cs : List Nat) (c : Nat),
    (y :: (cs ++ [c])).Pairwise (· ≤ ·) → (∀ x ∈ cs ++ [c], x < 2 ^ 64) →
    ∃ y', horner chk z (cs ++ [c]) y = .ok y' ∧ c - cs.getLastD y ≤ y' ∧ y' ≤ c := by
  intro cs
  induction cs using List.reverseRecOn with
  | nil =>
    intro c hnd hc
    obtain ⟨hs, hq⟩ := hornerStep_eq chk hz ((List.pairwise_cons.mp hnd).1 c (by simp)) (hc c (by simp))
    exact ⟨_, by rw [horner_append, horner, Res.bind_ok, hs], Nat.sub_le_sub_left hq c, Nat.sub_le ..⟩
  | append_singleton cs b ih =>
    intro c hnd hc
    rw [← List.cons_append, List.pairwise_append] at hnd
    obtain ⟨y1, hy1, _, hle⟩ := ih b hnd.1 fun x hx => hc x (List.mem_append_left _ hx)
    obtain ⟨hs, hq⟩ := hornerStep_eq chk hz (hle.trans (hnd.2.2 b (by simp) c (by simp))) (hc c (by simp))
    exact ⟨_, by rw [horner_append, hy1, Res.bind_ok, hs],
      by rw [List.getLastD_concat]; exact Nat.sub_le_sub_left (hq.trans hle) c, Nat.sub_le ..⟩

/-- the Horner run ends in `[47104, 2^63]`: its last step subtracts at most 0x7FFFFFFFFFFF4800 from 2^63 -/
theorem approxExpCore_eq (chk : Bool) {z : Nat} (hz : z < 2 ^ 63) (zc : Nat) :
    ∃ y, approxExpCore chk z zc = .ok (zc * y / 2 ^ 63 % 2 ^ 64) ∧ 47104 ≤ y ∧ y ≤ 2 ^ 63 := by
  obtain ⟨y, hy, h1, h2⟩ := horner_range chk hz (Gen.expC.headD 0) Gen.expC.tail.dropLast 0x8000000000000000
    (by decide) (by decide)  -- the 13 constants followed by 2^63 are nondecreasing; each is below 2^64
  exact ⟨y, congrArg (· >>= fun y => pure (zc * y / 2 ^ 63 % 2 ^ 64)) hy, Nat.le_trans (by decide) h1,
    Nat.le_trans h2 (by decide)⟩

end Falcon.Sampler

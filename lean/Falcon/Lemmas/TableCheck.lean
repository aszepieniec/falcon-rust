/-!
The Boolean check of a forward/inverse pair of twiddle tables modulo `m` — two linear passes that the kernel evaluates on
a concrete pair — and what a passed check says entry by entry.  `ModNtt.tables_of_tablesOK` turns it into the relations
the network needs.  Core Lean only, so that the table modules of the two instances stay free of Mathlib.
-/
namespace Falcon.ModNtt

/-- consecutive parents against consecutive pairs of children: c₀² = p and c₁² = −p modulo m -/
def sqPass (m : Nat) : List Nat → List Nat → Bool
  | p :: ps, c0 :: c1 :: cs => (c0 * c0 % m == p) && (c1 * c1 % m == (m - p) % m) && sqPass m ps cs
  | _, [] => true
  | _, _ => false

theorem sqPass_spec (m : Nat) (ps cs : List Nat) (h : sqPass m ps cs = true) : ∀ j, 2 * j + 1 < cs.length →
    cs.getD (2 * j) 0 * cs.getD (2 * j) 0 % m = ps.getD j 0 ∧
    cs.getD (2 * j + 1) 0 * cs.getD (2 * j + 1) 0 % m = (m - ps.getD j 0) % m := by
  fun_induction sqPass m ps cs with
  | case1 p ps c0 c1 cs ih =>
    simp only [Bool.and_eq_true, beq_iff_eq] at h
    intro j hj
    cases j with
    | zero => simpa using h.1
    -- entries 2(j+1) and 2(j+1)+1 of c0 :: c1 :: cs are entries 2j and 2j+1 of cs, by computation
    | succ j => exact ih h.2 j (by simp at hj; omega)
  | case2 => intro j hj; simp at hj
  | case3 => simp at h

/-- pointwise inverse, both entries canonical -/
def invPass (m : Nat) : List Nat → List Nat → Bool
  | a :: as, b :: bs => (a * b % m == 1) && decide (a < m) && decide (b < m) && invPass m as bs
  | [], [] => true
  | _, _ => false

theorem invPass_spec (m : Nat) (as bs : List Nat) (h : invPass m as bs = true) : ∀ j, j < as.length →
    as.getD j 0 * bs.getD j 0 % m = 1 ∧ as.getD j 0 < m ∧ bs.getD j 0 < m := by
  fun_induction invPass m as bs with
  | case1 a as b bs ih =>
    simp only [Bool.and_eq_true, beq_iff_eq, decide_eq_true_eq] at h
    intro j hj
    cases j with
    | zero => simpa using ⟨h.1.1.1, h.1.1.2, h.1.2⟩
    | succ j => exact ih h.2 j (by simpa using hj)
  | case2 => intro j hj; simp at hj
  | case3 => simp at h

/-- the whole obligation about a forward/inverse pair of tables of 1024 entries, as one Boolean -/
def tablesOK (m : Nat) (Tl TIl : List Nat) : Bool :=
  (Tl.getD 1 0 * Tl.getD 1 0 % m == m - 1) && sqPass m (Tl.drop 1) (Tl.drop 2) && invPass m Tl TIl &&
  (Tl.length == 1024)

theorem tablesOK_iff {m : Nat} {Tl TIl : List Nat} : tablesOK m Tl TIl = true ↔
    Tl.getD 1 0 * Tl.getD 1 0 % m = m - 1 ∧ sqPass m (Tl.drop 1) (Tl.drop 2) = true ∧ invPass m Tl TIl = true ∧
      Tl.length = 1024 := by
  simp only [tablesOK, Bool.and_eq_true, beq_iff_eq, and_assoc]

section lift
variable {m : Nat} {Tl TIl : List Nat} (hOK : tablesOK m Tl TIl = true)
include hOK

theorem tablesOK_length : Tl.length = 1024 := (tablesOK_iff.mp hOK).2.2.2

theorem tablesOK_root : Tl.getD 1 0 * Tl.getD 1 0 % m = m - 1 := (tablesOK_iff.mp hOK).1

theorem tablesOK_inv (j : Nat) (hj : j < 1024) :
    Tl.getD j 0 * TIl.getD j 0 % m = 1 ∧ Tl.getD j 0 < m ∧ TIl.getD j 0 < m :=
  invPass_spec m Tl TIl (tablesOK_iff.mp hOK).2.2.1 j (tablesOK_length hOK ▸ hj)

theorem tablesOK_children (k : Nat) (h1 : 1 ≤ k) (h2 : k < 512) :
    Tl.getD (2 * k) 0 * Tl.getD (2 * k) 0 % m = Tl.getD k 0 ∧
    Tl.getD (2 * k + 1) 0 * Tl.getD (2 * k + 1) 0 % m = (m - Tl.getD k 0) % m := by
  obtain ⟨j, rfl⟩ := Nat.exists_eq_add_of_le h1
  -- node 1 + j is entry j of `Tl.drop 1`, its children are entries 2j and 2j + 1 of `Tl.drop 2`
  have h := sqPass_spec m _ _ (tablesOK_iff.mp hOK).2.1 j (by simp [tablesOK_length hOK]; omega)
  simpa only [List.getD_eq_getElem?_getD, List.getElem?_drop, Nat.mul_add, Nat.mul_one, Nat.add_assoc] using h

end lift

end Falcon.ModNtt

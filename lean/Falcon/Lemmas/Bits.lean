import Falcon.Spec.Codec

/-!
Numbers as bit lists (`msb w n`, the inverse of `bitsToNat`) and byte strings as bit lists (`unpack`, `pack`,
`bitOf`); `WF x`, a byte string (it unfolds to `∀ b ∈ x, b < 256`, the form the property theorems write, and its lemmas apply
to either).  Everything byte- or bit-shaped in the codec proofs goes through the lemmas of this file.  Core Lean only.
-/
namespace Falcon.Spec

theorem bitsToNat_append (a b : List Bool) : bitsToNat (a ++ b) = bitsToNat a * 2 ^ b.length + bitsToNat b := by
  induction a with
  | nil => simp [bitsToNat]
  | cons x xs ih => simp only [List.cons_append, bitsToNat, ih, List.length_append, Nat.pow_add, Nat.add_mul,
      Nat.mul_assoc, Nat.add_assoc]

theorem bitsToNat_lt (a : List Bool) : bitsToNat a < 2 ^ a.length := by
  induction a with
  | nil => simp [bitsToNat]
  | cons x xs ih =>
    simp only [bitsToNat, List.length_cons, Nat.pow_succ]
    cases x <;> simp <;> omega

/-- `bitsToNat_lt` for a literal list: `2 ^ [b6, …, b0].length = 128` is dear to check by unfolding, `2 ^ 7 = 128` is not -/
theorem bitsToNat_lt_of {a : List Bool} {w : Nat} (h : a.length = w) : bitsToNat a < 2 ^ w := h ▸ bitsToNat_lt a

theorem bitsToNat_eq_zero : ∀ l : List Bool, (bitsToNat l == 0) = l.all (· == false)
  | [] => rfl
  | false :: l => by simpa [bitsToNat] using bitsToNat_eq_zero l
  | true :: l => by
    have := Nat.pow_pos (n := l.length) (show 0 < 2 by decide)
    simp [bitsToNat]

/-- the `w` low bits of `n`, most significant first -/
def msb : Nat → Nat → List Bool
  | 0, _ => []
  | w + 1, n => n.testBit w :: msb w n

@[simp] theorem length_msb (w n : Nat) : (msb w n).length = w := by
  induction w with
  | zero => rfl
  | succ w ih => simp [msb, ih]

theorem getElem?_msb (n : Nat) : ∀ (w j : Nat), j < w → (msb w n)[j]? = some (n.testBit (w - 1 - j))
  | w + 1, 0, _ => rfl
  | w + 1, j + 1, h => by
    rw [msb, List.getElem?_cons_succ, getElem?_msb n w j (by omega)]
    congr 2; omega

theorem bitsToNat_msb (n : Nat) : ∀ w, bitsToNat (msb w n) = n % 2 ^ w
  | 0 => by simp [msb, bitsToNat, Nat.mod_one]
  | w + 1 => by
    rw [msb, bitsToNat, length_msb, bitsToNat_msb n w, Nat.mod_pow_succ, ← Nat.toNat_testBit, Nat.mul_comm, Nat.add_comm]
    cases n.testBit w <;> rfl

theorem msb_congr {a b : Nat} : ∀ {w : Nat}, (∀ i < w, a.testBit i = b.testBit i) → msb w a = msb w b
  | 0, _ => rfl
  | w + 1, h => by rw [msb, msb, h w (by omega), msb_congr fun i hi => h i (by omega)]

theorem msb_two_pow_mul_add (w a m : Nat) (hm : m < 2 ^ w) : msb (w + 1) (2 ^ w * a + m) = a.testBit 0 :: msb w m := by
  have t := Nat.testBit_two_pow_mul_add a hm
  rw [msb, t, if_neg (Nat.lt_irrefl _), Nat.sub_self, msb_congr (a := 2 ^ w * a + m) (b := m) fun i hi => by rw [t, if_pos hi]]

theorem msb_bitsToNat : ∀ l : List Bool, msb l.length (bitsToNat l) = l
  | [] => rfl
  | b :: l => by
    rw [bitsToNat, Nat.mul_comm, List.length_cons, msb_two_pow_mul_add _ _ _ (bitsToNat_lt l), msb_bitsToNat l]
    cases b <;> rfl

theorem msb_add (n w : Nat) : ∀ a, msb (a + w) n = msb a (n >>> w) ++ msb w n
  | 0 => by rw [Nat.zero_add]; rfl
  | a + 1 => by rw [Nat.add_right_comm, msb, msb, msb_add n w a, Nat.testBit_shiftRight, Nat.add_comm w a]; rfl

theorem msb_zero : ∀ w, msb w 0 = List.replicate w false
  | 0 => rfl
  | w + 1 => by rw [msb, msb_zero w, Nat.zero_testBit]; rfl

theorem msb_mod_of_le {w m : Nat} (h : w ≤ m) (n : Nat) : msb w (n % 2 ^ m) = msb w n :=
  msb_congr fun i hi => by rw [Nat.testBit_mod_two_pow, decide_eq_true (Nat.lt_of_lt_of_le hi h)]; rfl

theorem msb_mod (w n : Nat) : msb w (n % 2 ^ w) = msb w n := msb_mod_of_le (Nat.le_refl w) n

theorem msb_shiftLeft (s v : Nat) : msb s (v <<< s) = List.replicate s false :=
  (msb_congr fun i hi => by rw [Nat.testBit_shiftLeft, decide_eq_false (by omega), Nat.zero_testBit]; rfl).trans (msb_zero s)

theorem bitsToNat_eq_of (l : List Bool) (v : Nat) (hv : v < 2 ^ l.length)
    (h : ∀ j < l.length, l[j]? = some (v.testBit (l.length - 1 - j))) : bitsToNat l = v := by
  have : l = msb l.length v := List.ext_getElem? fun j => by
    by_cases hj : j < l.length
    · rw [h j hj, getElem?_msb v _ j hj]
    · rw [List.getElem?_eq_none (by omega), List.getElem?_eq_none (by simp; omega)]
  rw [this, bitsToNat_msb, Nat.mod_eq_of_lt hv]

theorem testBit_eq (n k : Nat) : n.testBit k = (n / 2 ^ k % 2 == 1) := by
  rw [Nat.testBit_eq_decide_div_mod_eq, Bool.beq_eq_decide_eq]

/-- `(b >> k) & 1`, as the code reads a bit -/
theorem testBit_eq_shiftRight (b k : Nat) : b.testBit k = (b >>> k % 2 == 1) := by
  rw [testBit_eq, Nat.shiftRight_eq_div_pow]

theorem testBit_byte {b : Nat} (hb : b < 256) {k : Nat} (hk : 8 ≤ k) : b.testBit k = false :=
  Nat.testBit_lt_two_pow (Nat.lt_of_lt_of_le hb (Nat.pow_le_pow_right (by decide) hk : 2 ^ 8 ≤ 2 ^ k))

theorem low7_eq (a : Nat) : low7 a = msb 7 a := by simp [low7, msb, testBit_eq]

/-- well-formed byte string -/
def WF (x : List Nat) : Prop := ∀ b ∈ x, b < 256

theorem WF.head {b : Nat} {x : List Nat} (h : WF (b :: x)) : b < 256 := h b (List.mem_cons_self ..)
theorem WF.tail {b : Nat} {x : List Nat} (h : WF (b :: x)) : WF x := fun c hc => h c (List.mem_cons_of_mem _ hc)
theorem WF.take {x : List Nat} (h : WF x) (k : Nat) : WF (x.take k) := fun c hc => h c (List.mem_of_mem_take hc)
theorem WF.drop {x : List Nat} (h : WF x) (k : Nat) : WF (x.drop k) := fun c hc => h c (List.mem_of_mem_drop hc)
theorem WF.left {x y : List Nat} (h : WF (x ++ y)) : WF x := fun c hc => h c (List.mem_append_left _ hc)
theorem WF.right {x y : List Nat} (h : WF (x ++ y)) : WF y := fun c hc => h c (List.mem_append_right _ hc)

theorem WF.getD_lt {x : List Nat} (hx : WF x) (j : Nat) : x[j]?.getD 0 < 256 := by
  cases hg : x[j]? with
  | none => decide
  | some b => exact hx b (List.mem_of_getElem? hg)

theorem unpack_cons (b : Nat) (x : List Nat) : unpack (b :: x) = msb 8 b ++ unpack x := by
  simp [unpack, msb, testBit_eq]

theorem unpack_length (x : List Nat) : (unpack x).length = 8 * x.length := by
  induction x with
  | nil => rfl
  | cons b x ih => rw [unpack_cons, List.length_append, ih, length_msb, List.length_cons]; omega

theorem unpack_append (x y : List Nat) : unpack (x ++ y) = unpack x ++ unpack y := by
  rw [unpack, unpack, unpack, List.flatMap_append]

theorem unpack_drop (x : List Nat) (d : Nat) : (unpack x).drop (8 * d) = unpack (x.drop d) := by
  by_cases hd : d ≤ x.length
  · have hl : (unpack (x.take d)).length = 8 * d := by rw [unpack_length, List.length_take, Nat.min_eq_left hd]
    conv => lhs; rw [← List.take_append_drop d x, unpack_append, List.drop_left' hl]
  · rw [List.drop_eq_nil_of_le (by omega : x.length ≤ d), List.drop_eq_nil_of_le (by rw [unpack_length]; omega)]
    rfl

theorem unpack_take (x : List Nat) (d : Nat) : (unpack x).take (8 * d) = unpack (x.take d) :=
  List.append_cancel_right (bs := (unpack x).drop (8 * d)) <| by
    rw [List.take_append_drop, unpack_drop, ← unpack_append, List.take_append_drop]

theorem pack_append (l rest : List Bool) (h : l.length = 8) : pack (l ++ rest) = bitsToNat l :: pack rest := by
  match l, h with
  | [b7, b6, b5, b4, b3, b2, b1, b0], _ => rfl

theorem pack_unpack : ∀ (x : List Nat), WF x → pack (unpack x) = x
  | [], _ => rfl
  | b :: x, h => by
    rw [unpack_cons, pack_append _ _ (length_msb 8 b), bitsToNat_msb, Nat.mod_eq_of_lt h.head, pack_unpack x h.tail]

theorem pack_spec : ∀ (k : Nat) (bs : List Bool), bs.length = 8 * k →
    (pack bs).length = k ∧ WF (pack bs) ∧ unpack (pack bs) = bs
  | 0, bs, h => by
    have : bs = [] := List.length_eq_zero_iff.mp (by omega)
    subst this
    exact ⟨rfl, fun _ hb => absurd hb (by simp [pack]), rfl⟩
  | k + 1, bs, h => by
    have hl : (bs.take 8).length = 8 := List.length_take_of_le (by omega)
    obtain ⟨h1, h2, h3⟩ := pack_spec k (bs.drop 8) (by rw [List.length_drop]; omega)
    rw [← List.take_append_drop 8 bs, pack_append _ _ hl]
    refine ⟨by rw [List.length_cons, h1], fun b hb => ?_, ?_⟩
    · rcases List.mem_cons.mp hb with rfl | hb
      · exact bitsToNat_lt_of hl
      · exact h2 b hb
    · have := msb_bitsToNat (bs.take 8)
      rw [hl] at this
      rw [unpack_cons, this, h3]

/-- bit `i` (most significant first) of a byte string; `false` beyond the end -/
def bitOf (x : List Nat) (i : Nat) : Bool := (x[i / 8]?.getD 0).testBit (7 - i % 8)

theorem bitOf_mul_add (x : List Nat) (d : Nat) {r : Nat} (hr : r < 8) : bitOf x (8 * d + r) = (x[d]?.getD 0).testBit (7 - r) := by
  rw [bitOf, Nat.mul_add_div (by decide), Nat.mul_add_mod, Nat.div_eq_of_lt hr, Nat.mod_eq_of_lt hr]; rfl

theorem bitOf_window (x : List Nat) (i r : Nat) (hr : i % 8 + r < 16) :
    bitOf x (i + r) = if i % 8 + r < 8 then (x[i / 8]?.getD 0).testBit (7 - (i % 8 + r))
      else (x[i / 8 + 1]?.getD 0).testBit (15 - (i % 8 + r)) := by
  -- with i = 8 d + m the statement is free of `/` and `%`
  have hi : i = 8 * (i / 8) + i % 8 := (Nat.div_add_mod i 8).symm
  generalize i / 8 = d, i % 8 = m at hi hr ⊢
  subst hi
  by_cases h : m + r < 8
  · rw [if_pos h, Nat.add_assoc, bitOf_mul_add x d h]
  · obtain ⟨s, hs⟩ : ∃ s, m + r = 8 + s := ⟨m + r - 8, by omega⟩
    rw [if_neg h, Nat.add_assoc, hs, ← Nat.add_assoc, ← Nat.mul_succ, bitOf_mul_add x _ (by omega : s < 8), Nat.sub_add_eq]

theorem unpack_get (x : List Nat) (i : Nat) (h : i < 8 * x.length) : (unpack x)[i]? = some (bitOf x i) := by
  obtain ⟨d, r, hr, rfl⟩ : ∃ d r, r < 8 ∧ i = 8 * d + r := ⟨i / 8, i % 8, Nat.mod_lt _ (by decide), (Nat.div_add_mod i 8).symm⟩
  have hd : d < x.length := by omega
  -- past `d` whole bytes, bit `r` of the next byte
  rw [← List.getElem?_drop, unpack_drop, List.drop_eq_getElem_cons hd, unpack_cons,
    List.getElem?_append_left (by rw [length_msb]; exact hr), getElem?_msb _ 8 r hr, bitOf_mul_add x d hr,
    List.getElem?_eq_getElem hd, Option.getD_some]

theorem drop_unpack_eq_cons (x : List Nat) (i : Nat) (h : i < 8 * x.length) :
    (unpack x).drop i = bitOf x i :: (unpack x).drop (i + 1) := by
  have hl : i < (unpack x).length := by rw [unpack_length]; exact h
  rw [List.drop_eq_getElem_cons hl, ← Option.some.inj ((List.getElem?_eq_getElem hl).symm.trans (unpack_get x i h))]

theorem unpack_all_false : ∀ (y : List Nat), WF y → (unpack y).all (· == false) = !(y.any (· ≠ 0))
  | [], _ => rfl
  | b :: ys, h => by
    rw [unpack_cons, List.all_append, ← bitsToNat_eq_zero, bitsToNat_msb, Nat.mod_eq_of_lt h.head, unpack_all_false ys h.tail,
      List.any_cons]
    by_cases hz : b = 0 <;> simp [hz]

end Falcon.Spec

import Falcon.Gen.CplxTable

/-
  Model of the floating-point FFT layer (`Polynomial<Complex64>` in fast_fft.rs + cyclotomic_fourier.rs):
  the same butterfly network as `Falcon.Ntt`, generic in the scalar operations, executed here on pairs of
  IEEE doubles (Lean `Float`) with the complex arithmetic of num-complex written out
  ((a+bi)(c+di) = (ac − bd) + (ad + bc)i, no fused multiply-add), so results are compared with the Rust code
  bit for bit.  Nothing is proved about `Float`; the same generic definitions are instantiated with the
  operations of a commutative ring in `Falcon/Lemmas/NttGeneric.lean` (`ringOps`; split and merge: `Lemmas/FftExact.lean`).
-/
namespace Falcon.FftFlt

structure Ops (α : Type) where
  add : α → α → α
  sub : α → α → α
  mul : α → α → α

variable {α : Type}

def nttRecO (o : Ops α) (T : Nat → α) : Nat → Nat → List α → List α
  | 0, _, a => a
  | d + 1, k, a =>
    let lo := a.take (2 ^ d); let hi := a.drop (2 ^ d); let s := T k
    nttRecO o T d (2 * k) (List.zipWith (fun u v => o.add u (o.mul v s)) lo hi) ++
    nttRecO o T d (2 * k + 1) (List.zipWith (fun u v => o.sub u (o.mul v s)) lo hi)

def inttRecO (o : Ops α) (TI : Nat → α) : Nat → Nat → List α → List α
  | 0, _, a => a
  | d + 1, k, a =>
    let x := inttRecO o TI d (2 * k) (a.take (2 ^ d))
    let y := inttRecO o TI d (2 * k + 1) (a.drop (2 ^ d))
    List.zipWith o.add x y ++ List.zipWith (fun u v => o.mul (o.sub u v) (TI k)) x y

/-- `split_fft`: pairs (F[2i], F[2i+1]) ↦ (½(F[2i]+F[2i+1]), ½ζᵢ⁻¹(F[2i]−F[2i+1])), ζᵢ⁻¹ = TI(n/2 + i) -/
def splitO (o : Ops α) (TI : Nat → α) (half : α) : Nat → List α → List α × List α
  | i, x :: y :: rest =>
    let (f0, f1) := splitO o TI half (i + 1) rest
    (o.mul half (o.add x y) :: f0, o.mul (o.mul half (TI i)) (o.sub x y) :: f1)
  | _, _ => ([], [])

/-- `merge_fft`: (f0[i], f1[i]) ↦ (f0[i] + ζᵢ f1[i], f0[i] − ζᵢ f1[i]), ζᵢ = T(n/2 + i) -/
def mergeO (o : Ops α) (T : Nat → α) : Nat → List α → List α → List α
  | i, x :: xs, y :: ys => o.add x (o.mul (T i) y) :: o.sub x (o.mul (T i) y) :: mergeO o T (i + 1) xs ys
  | _, _, _ => []

/-! ### instance: Complex64 as pairs of doubles -/

abbrev C := Float × Float

def cadd (a b : C) : C := (a.1 + b.1, a.2 + b.2)
def csub (a b : C) : C := (a.1 - b.1, a.2 - b.2)
def cmul (a b : C) : C := (a.1 * b.1 - a.2 * b.2, a.1 * b.2 + a.2 * b.1)

def cops : Ops C := ⟨cadd, csub, cmul⟩

def tblRe : Array Float := (Gen.cplxReBits.map fun b => Float.ofBits b.toUInt64).toArray
def tblIm : Array Float := (Gen.cplxImBits.map fun b => Float.ofBits b.toUInt64).toArray

/-- COMPLEX_BITREVERSED_POWERS_1024[k] -/
def T (k : Nat) : C := (tblRe.getD k 0.0, tblIm.getD k 0.0)
/-- the conjugate table the inverse transform builds: `Complex64::new(c.re, -c.im)` -/
def TI (k : Nat) : C := (tblRe.getD k 0.0, -(tblIm.getD k 0.0))

def log2 (n : Nat) : Nat := Nat.log2 n

def fft (a : List C) : List C := nttRecO cops T (log2 a.length) 1 a

def ifft (a : List C) : List C :=
  let n := a.length
  let ninv : C := (1.0 / n.toFloat, 0.0)
  (inttRecO cops TI (log2 n) 1 a).map (cmul · ninv)

/-- `(1 + 1).inverse_or_zero()` for Complex64: (re/|z|², −im/|z|²) of (2, 0) -/
def twoInv : C := (2.0 / (2.0 * 2.0 + 0.0 * 0.0), -0.0 / (2.0 * 2.0 + 0.0 * 0.0))

def splitFft (a : List C) : List C × List C := splitO cops TI twoInv (a.length / 2) a
def mergeFft (a b : List C) : List C := mergeO cops T a.length a b

end Falcon.FftFlt

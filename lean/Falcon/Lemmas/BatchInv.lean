import Mathlib.Data.ZMod.Basic
import Mathlib.Algebra.Field.ZMod
import Mathlib.Tactic.NormNum.Prime
import Mathlib.Tactic.FieldSimp
import Falcon.Lemmas.NttZMod
import Falcon.Lemmas.ZqExact

/-!
Inversion modulo q.  Montgomery's trick for the two passes of `batch_inverse_or_zero` written over any field; the addition
chain of `inverse_or_zero` computes a^(q−2), which inverts by Fermat; and the model on representatives: on `ZMod.val`s of
elements of ZMod 12289 every operation of the model returns the `ZMod.val` of the field operation, so each pass of the
model is the field pass — an equation, with no bounds to carry.
-/
namespace Falcon.Batch
open Falcon Falcon.Ntt Falcon.Props

section field
variable {K : Type} [Field K] [DecidableEq K]

/-- product of the non-zero entries -/
def P : List K → K
  | [] => 1
  | x :: xs => if x ≠ 0 then x * P xs else P xs

/-- forward pass from the accumulator `a`: at each non-zero entry the product so far (0 at a zero entry) -/
def rpF : List K → K → List K
  | [], _ => []
  | x :: xs, a => if x ≠ 0 then a :: rpF xs (x * a) else 0 :: rpF xs a

/-- backward pass over (entry, stored product) pairs, last entry first; `i` is the inverse of the product of what is left -/
def bwdF : List (K × K) → K → List K
  | [], _ => []
  | (x, r) :: rest, i => if x ≠ 0 then (r * i) :: bwdF rest (i * x) else r :: bwdF rest i

theorem P_ne_zero : ∀ xs : List K, P xs ≠ 0
  | [] => one_ne_zero
  | x :: xs => by
    unfold P
    split
    · exact mul_ne_zero ‹_› (P_ne_zero xs)
    · exact P_ne_zero xs

theorem P_append : ∀ xs ys : List K, P (xs ++ ys) = P xs * P ys
  | [], _ => by simp [P]
  | x :: xs, ys => by
    simp only [List.cons_append, P, P_append xs ys]
    split
    · rw [mul_assoc]
    · rfl

theorem rpF_length : ∀ (xs : List K) (a : K), (rpF xs a).length = xs.length
  | [], _ => rfl
  | x :: xs, a => by unfold rpF; split <;> simp [rpF_length xs]

theorem rpF_append : ∀ (xs ys : List K) (a : K), rpF (xs ++ ys) a = rpF xs a ++ rpF ys (a * P xs)
  | [], _, _ => by simp [rpF, P]
  | x :: xs, ys, a => by
    simp only [List.cons_append, rpF, P]
    split
    · rw [rpF_append xs ys, mul_assoc, mul_left_comm x a, List.cons_append]
    · rw [rpF_append xs ys, List.cons_append]

/-- Induction from the right, as the backward pass runs: at the last entry x the inverse in hand is (a·P ys·x)⁻¹ and the
    stored product is a·P ys; their product is x⁻¹, and the inverse handed on is (a·P ys)⁻¹, which is what the passes
    over ys start from. -/
theorem trick {a : K} (ha : a ≠ 0) (xs : List K) :
    (bwdF (xs.zip (rpF xs a)).reverse (a * P xs)⁻¹).reverse = xs.map (·⁻¹) := by
  induction xs using List.reverseRecOn with
  | nil => rfl
  | append_singleton ys x ih =>
    have hP := P_ne_zero ys
    rw [rpF_append, List.zip_append (rpF_length ys a).symm, List.reverse_append, P_append, List.map_append, ← ih]
    -- left: the round of the last entry, `rpF [x] b = [b]`, `P [x] = x` (`[0]` and 1 when x = 0) and one step of `bwdF`
    by_cases hx : x = 0
    · simp [rpF, bwdF, P, hx]
    · have e1 : (a * (P ys * x))⁻¹ * x = (a * P ys)⁻¹ := by field_simp
      have e2 : a * P ys * (a * (P ys * x))⁻¹ = x⁻¹ := by field_simp
      -- without `mul_inv_rev`, which would take the inverse apart before `e1` and `e2` can be used
      simp [rpF, bwdF, P, hx, -mul_inv_rev, e1, e2]

end field

instance : Fact (Nat.Prime 12289) := ⟨by norm_num⟩

theorem cast_ne_zero_iff (a : Nat) (ha : a < 12289) : a ≠ 0 ↔ (a : Fq) ≠ 0 := by
  rw [← ZMod.val_ne_zero, ZMod.val_cast_of_lt ha]

theorem fermat {p : Nat} [Fact p.Prime] {x : ZMod p} (hx : x ≠ 0) : x ^ (p - 1) = 1 := by
  have h := pow_card_eq_one (x := Units.mk0 x hx)
  rw [Fintype.card_units, ZMod.card] at h
  simpa using congrArg Units.val h

theorem cast_invN_pow (a : Nat) : (C12.invN a : Fq) = (a : Fq) ^ 12287 := by
  have mul : ∀ {x y i j : Nat} (k : Nat), (x : Fq) = (a : Fq) ^ i → (y : Fq) = (a : Fq) ^ j → i + j = k →
      (C12.mulN x y : Fq) = (a : Fq) ^ k := by
    intro x y i j k hx hy hk
    rw [← hk, pow_add, ← hx, ← hy]; exact (ModNtt.ops_hom 12289).mul x y
  have h1 : (a : Fq) = (a : Fq) ^ 1 := (pow_one _).symm
  unfold C12.invN
  extract_lets two three six twelve fifteen thirty sixty sixtyThree sq qu oc hx tt sf allOnes twoE12 twoE13
  have h2 := mul 2 h1 h1 rfl
  have h3 := mul 3 h2 h1 rfl
  have h6 := mul 6 h3 h3 rfl
  have h12 := mul 12 h6 h6 rfl
  have h15 := mul 15 h12 h3 rfl
  have h30 := mul 30 h15 h15 rfl
  have h60 := mul 60 h30 h30 rfl
  have h63 := mul 63 h60 h3 rfl
  have h126 := mul 126 h63 h63 rfl
  have h252 := mul 252 h126 h126 rfl
  have h504 := mul 504 h252 h252 rfl
  have h1008 := mul 1008 h504 h504 rfl
  have h2016 := mul 2016 h1008 h1008 rfl
  have h4032 := mul 4032 h2016 h2016 rfl
  have h4095 := mul 4095 h4032 h63 rfl
  have h4096 := mul 4096 h4095 h1 rfl
  have h8192 := mul 8192 h4096 h4096 rfl
  exact mul 12287 h8192 h4095 rfl

theorem cast_invN (a : Nat) : (C12.invN a : Fq) = (a : Fq)⁻¹ := by
  rw [cast_invN_pow]
  by_cases h0 : (a : Fq) = 0
  · rw [h0, inv_zero]; exact zero_pow (by decide)
  · exact eq_inv_of_mul_eq_one_right (by rw [← pow_succ']; exact fermat h0)

theorem mul_val (chk : Bool) (a b : Fq) : Zq.mul chk a.val b.val = .ok (a * b).val := by
  rw [(C12.mul_exact chk _ _ (ZMod.val_lt a) (ZMod.val_lt b)).1, ZMod.val_mul]; rfl

theorem invN_lt (a : Nat) : C12.invN a < 12289 := C12.mulN_lt _ _

theorem invN_val (a : Fq) : C12.invN a.val = a⁻¹.val := by
  rw [← ZMod.val_cast_of_lt (invN_lt a.val)]
  exact congrArg ZMod.val ((cast_invN a.val).trans (by rw [ZMod.natCast_zmod_val]))

theorem mul_invN {a : Nat} (ha : a < 12289) (h0 : a ≠ 0) : a * C12.invN a % 12289 = 1 := by
  -- a and `invN a` are the representatives of the class of a and its inverse, so a · invN a mod q is that of 1
  have e := ZMod.val_mul (a : Fq) (a : Fq)⁻¹
  rw [mul_inv_cancel₀ ((cast_ne_zero_iff a ha).mp h0), ZMod.val_one, ← invN_val, ZMod.val_cast_of_lt ha] at e
  exact e.symm

theorem invN_spec (a : Nat) (ha : a < 12289) :
    C12.invN a < 12289 ∧ if a = 0 then C12.invN a = 0 else a * C12.invN a % 12289 = 1 := by
  refine ⟨invN_lt a, ?_⟩
  split
  · next h => subst h; rfl
  · next h => exact mul_invN ha h

theorem inv_val (chk : Bool) (a : Fq) : Zq.inv chk a.val = .ok a⁻¹.val := by
  rw [C12.inv_eq_invN chk _ (ZMod.val_lt (n := 12289) a), invN_val]

theorem fwd_val (chk : Bool) : ∀ (ys : List Fq) (a : Fq),
    Zq.batchFwd chk (ys.map ZMod.val) a.val = .ok ((rpF ys a).map ZMod.val, (a * P ys).val)
  | [], a => by simp [Zq.batchFwd, rpF, P]
  | y :: ys, a => by
    -- one round on both sides: the model's test `y.val ≠ 0` is `y ≠ 0`, its product is the field's (`mul_val`), the rest
    -- of the pass is the induction hypothesis
    by_cases hy : y = 0
    · simp [Zq.batchFwd, rpF, P, hy, fwd_val chk ys a]
    · have e : a * (y * P ys) = y * a * P ys := by ring
      simp [Zq.batchFwd, rpF, P, hy, mul_val, fwd_val chk ys (y * a), e]

theorem bwd_val (chk : Bool) : ∀ (L : List (Fq × Fq)) (i : Fq),
    Zq.batchBwd chk (L.map (Prod.map ZMod.val ZMod.val)) i.val = .ok ((bwdF L i).map ZMod.val)
  | [], _ => rfl
  | (x, r) :: L, i => by
    by_cases hx : x = 0
    · simp [Zq.batchBwd, bwdF, hx, bwd_val chk L i]
    · simp [Zq.batchBwd, bwdF, hx, mul_val, bwd_val chk L (i * x)]

theorem batchInv_of {chk : Bool} {xs rp out : List Nat} {fin i : Nat} (h1 : Zq.batchFwd chk xs (Zq.new 1) = .ok (rp, fin))
    (h2 : Zq.inv chk fin = .ok i) (h3 : Zq.batchBwd chk (xs.zip rp).reverse i = .ok out) :
    Zq.batchInv chk xs = .ok out.reverse :=
  Res.bind_eq_ok.mpr ⟨(rp, fin), h1, Res.bind_eq_ok.mpr ⟨i, h2, Res.bind_eq_ok.mpr ⟨out, h3, rfl⟩⟩⟩

theorem batchInv_val (chk : Bool) (ys : List Fq) :
    Zq.batchInv chk (ys.map ZMod.val) = .ok ((ys.map (·⁻¹)).map ZMod.val) := by
  have h1 := fwd_val chk ys 1
  have h3 := bwd_val chk (ys.zip (rpF ys 1)).reverse (1 * P ys)⁻¹
  rw [ZMod.val_one, show (1 : Nat) = Zq.new 1 by decide] at h1
  rw [List.map_reverse, ← List.zip_map] at h3
  rw [batchInv_of h1 (inv_val chk _) h3, ← List.map_reverse, trick one_ne_zero]

theorem batchInv_eq (chk : Bool) (xs : List Nat) (hx : ∀ x ∈ xs, x < 12289) :
    Zq.batchInv chk xs = .ok (xs.map C12.invN) := by
  have h := batchInv_val chk (xs.map ((↑) : Nat → Fq))
  rw [ModNtt.map_val_cast 12289 hx] at h
  rw [h, List.map_map, List.map_map]
  exact congrArg Res.ok (List.map_congr_left fun a ha => by
    rw [Function.comp, Function.comp, ← invN_val, ZMod.val_cast_of_lt (hx a ha)])

end Falcon.Batch

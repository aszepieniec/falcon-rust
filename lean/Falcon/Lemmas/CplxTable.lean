import Falcon.Gen.CplxTable

/-!
The 1024 complex twiddles of fast_fft.rs, as the exact dyadic rationals rustc produces from the decimal
literals (bit patterns re-extracted by the translator), checked in exact integer arithmetic by the kernel:
T[0] = 1, T[1] ≈ i, T[2k]² ≈ T[k], T[2k+1] ≈ i·T[2k], |T[k]| ≈ 1 (all within 2^-50), and every even-indexed
entry a + bi has 0 < a and 0 ≤ b, which picks the square root — so by induction over the levels every entry is
e^{iπ·bitrev₁₀(k)/1024} up to accumulated rounding.  Core Lean only.
-/
namespace Falcon.CplxTab

/-- scale: every table entry (magnitude in [2^-106, 2] or zero) becomes an integer multiple of 2^-160; a smaller non-zero value would be mis-scaled upwards and fail the checks -/
def S : Nat := 160

/-- the exact value of an IEEE-754 binary64 bit pattern, times 2^S (finite values only) -/
def scaled (bits : Nat) : Int :=
  let sign := bits / 2 ^ 63
  let ex := bits / 2 ^ 52 % 2048
  let frac := bits % 2 ^ 52
  let (m, e) := if ex = 0 then (frac, 1) else (2 ^ 52 + frac, ex)     -- value = m · 2^(e − 1075)
  let mag : Nat := m * 2 ^ (e + S - 1075)
  if sign = 1 then -(mag : Int) else (mag : Int)

def re : List Int := Gen.cplxReBits.map scaled
def im : List Int := Gen.cplxImBits.map scaled

def one : Int := 2 ^ S
/-- tolerance 2^-50 at scale 2^S and at scale 2^(2S) -/
def tol1 : Int := 2 ^ (S - 50)
def tol2 : Int := 2 ^ (2 * S - 50)

/-- |x − y| ≤ tol -/
def near (x y tol : Int) : Bool := decide (x - y ≤ tol) && decide (y - x ≤ tol)

/-- walk parents (A, B) and children pairs ((a, b), (c, d)):
    (a+bi)² ≈ A+Bi;  c+di ≈ i(a+bi);  |a+bi|² ≈ 1;  a > 0, b ≥ 0 -/
def pass : List Int → List Int → List Int → List Int → Bool
  | A :: As, B :: Bs, a :: c :: cs, b :: d :: ds =>
    near (a * a - b * b) (A * one) tol2 && near (2 * a * b) (B * one) tol2 &&
    near c (-b) tol1 && near d a tol1 &&
    near (a * a + b * b) (one * one) tol2 && near (c * c + d * d) (one * one) tol2 &&
    decide (0 < a) && decide (0 ≤ b) &&
    pass As Bs cs ds
  | _, _, [], [] => true
  | _, _, _, _ => false

/-- the exponent field is not all ones: neither ±∞ nor NaN -/
def finite (bits : Nat) : Bool := decide (bits / 2 ^ 52 % 2048 ≠ 2047)

/-- the whole check as one Boolean: 1024 finite entries, T[0] = 1, T[1] ≈ i, and `pass` from node 1 down -/
def tableOK : Bool :=
  (re.length == 1024) && (im.length == 1024) &&
  Gen.cplxReBits.all finite && Gen.cplxImBits.all finite &&
  (re.getD 0 0 == one) && (im.getD 0 0 == 0) &&
  near (re.getD 1 0) 0 tol1 && near (im.getD 1 0) one tol1 &&
  pass (re.drop 1) (im.drop 1) (re.drop 2) (im.drop 2)

theorem pass_split : ∀ (k : Nat) (As Bs cs ds : List Int),
    k ≤ As.length → k ≤ Bs.length → 2 * k ≤ cs.length → 2 * k ≤ ds.length →
    pass As Bs cs ds =
      (pass (As.take k) (Bs.take k) (cs.take (2 * k)) (ds.take (2 * k)) &&
       pass (As.drop k) (Bs.drop k) (cs.drop (2 * k)) (ds.drop (2 * k)))
  | 0, _, _, _, _, _, _, _, _ => by simp only [Nat.mul_zero, List.take_zero, List.drop_zero, pass, Bool.true_and]
  | k + 1, A :: As, B :: Bs, a :: c :: cs, b :: d :: ds, h1, h2, h3, h4 => by
    -- 2 * (k + 1) is 2 * k + 2 by computation: one entry of As, Bs goes with two of cs, ds
    have ih := pass_split k As Bs cs ds (Nat.le_of_succ_le_succ h1) (Nat.le_of_succ_le_succ h2)
      (Nat.le_of_succ_le_succ (Nat.le_of_succ_le_succ h3)) (Nat.le_of_succ_le_succ (Nat.le_of_succ_le_succ h4))
    simp only [Nat.mul_succ, List.take_succ_cons, List.drop_succ_cons, pass, ih, Bool.and_assoc]
  -- one of the lists is too short for a row
  | _ + 1, [], _, _, _, h, _, _, _ | _ + 1, _, [], _, _, _, h, _, _
  | _ + 1, _, _, [], _, _, _, h, _ | _ + 1, _, _, _, [], _, _, _, h => absurd h (Nat.not_succ_le_zero _)
  | _ + 1, _, _, [_], _, _, _, h, _ | _ + 1, _, _, _, [_], _, _, _, h =>
    absurd (Nat.le_of_succ_le_succ h) (Nat.not_succ_le_zero _)

theorem le_length_drop {α : Type} {l : List α} {n k : Nat} (h : n + k ≤ l.length) : k ≤ (l.drop n).length :=
  List.length_drop ▸ Nat.le_sub_of_add_le' h

theorem pass_of_blocks (k : Nat) (As Bs cs ds : List Int) : ∀ m : Nat,
    k * m ≤ As.length → k * m ≤ Bs.length → 2 * (k * m) ≤ cs.length → 2 * (k * m) ≤ ds.length →
    (∀ i < m, pass ((As.drop (k * i)).take k) ((Bs.drop (k * i)).take k)
      ((cs.drop (2 * (k * i))).take (2 * k)) ((ds.drop (2 * (k * i))).take (2 * k)) = true) →
    pass (As.drop (k * m)) (Bs.drop (k * m)) (cs.drop (2 * (k * m))) (ds.drop (2 * (k * m))) = true →
    pass As Bs cs ds = true
  | 0, _, _, _, _, _, h => by simpa using h
  | m + 1, h1, h2, h3, h4, hb, h => by
    rw [Nat.mul_succ] at h1 h2 h3 h4 h
    rw [Nat.mul_add] at h3 h4 h
    refine pass_of_blocks k As Bs cs ds m (Nat.le_of_add_right_le h1) (Nat.le_of_add_right_le h2)
      (Nat.le_of_add_right_le h3) (Nat.le_of_add_right_le h4) (fun i hi => hb i (Nat.lt_succ_of_lt hi)) ?_
    -- block m, then what is left after it
    rw [pass_split k _ _ _ _ (le_length_drop h1) (le_length_drop h2) (le_length_drop h3) (le_length_drop h4),
      hb m (Nat.lt_succ_self m), Bool.true_and, List.drop_drop, List.drop_drop, List.drop_drop, List.drop_drop]
    exact h

/- Evaluated in blocks, each by a kernel run of its own: nearly all scaled entries are multiples of 2^107, the kernel
   hashes a big literal by its low bits, so within one run they all collide in its caches and the time of a run grows
   quadratically with the number of rows it visits (the whole table at once takes fourteen times as long). -/
theorem tableOK_true : tableOK = true := by
  have hre : re.length = 1024 := by decide +kernel
  have him : im.length = 1024 := by decide +kernel
  -- the parents that have children are 1 … 511: thirty-one blocks of 16, and the rest in the last run
  have hb : ∀ i, i < 31 →
      pass (((re.drop 1).drop (16 * i)).take 16) (((im.drop 1).drop (16 * i)).take 16)
        (((re.drop 2).drop (2 * (16 * i))).take (2 * 16)) (((im.drop 2).drop (2 * (16 * i))).take (2 * 16)) = true := by
    -- cut the block out of the bit patterns and scale only that: the kernel is slow at dropping through `map`
    simp only [re, im, ← List.map_drop, ← List.map_take]
    exact fun
      | 0, _ | 1, _ | 2, _ | 3, _ | 4, _ | 5, _ | 6, _ | 7, _ | 8, _ | 9, _ | 10, _ | 11, _ | 12, _ | 13, _ | 14, _ |
      15, _ | 16, _ | 17, _ | 18, _ | 19, _ | 20, _ | 21, _ | 22, _ | 23, _ | 24, _ | 25, _ | 26, _ | 27, _ | 28, _ |
      29, _ | 30, _ => by decide +kernel
      | _ + 31, h => by omega
  have hp := pass_of_blocks 16 (re.drop 1) (im.drop 1) (re.drop 2) (im.drop 2) 31
    (by simp [hre]) (by simp [him]) (by simp [hre]) (by simp [him]) hb (by simp only [re, im, ← List.map_drop]; decide +kernel)
  have h0 : ((re.length == 1024) && (im.length == 1024) &&
      Gen.cplxReBits.all finite && Gen.cplxImBits.all finite &&
      (re.getD 0 0 == one) && (im.getD 0 0 == 0) &&
      near (re.getD 1 0) 0 tol1 && near (im.getD 1 0) one tol1) = true := by decide +kernel
  rw [tableOK, h0, hp]; rfl

end Falcon.CplxTab

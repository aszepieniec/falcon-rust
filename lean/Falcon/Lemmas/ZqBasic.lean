import Falcon.Model.Zq

/-!
What other proofs cite about `Felt::new` and `balanced_value`: `new` of any integer is canonical and represents its
class (no range hypothesis), it is the identity on canonical residues, and centring undoes it on (−q/2, q/2);
`balanced_eq` is the value of `balanced_value` on a canonical residue.  Core Lean only.
-/
namespace Falcon.Zq
open Falcon

/-- `Felt::new` of ANY integer is canonical … -/
theorem new_lt (v : Int) : new v < 12289 :=
  (Int.toNat_lt (Int.emod_nonneg v (by decide))).mpr (Int.emod_lt_of_pos v (by decide))

/-- … and represents its class -/
theorem new_cast (v : Int) : ((new v : Nat) : Int) = v % 12289 :=
  Int.toNat_of_nonneg (Int.emod_nonneg v (by decide))

theorem new_natCast {x : Nat} (h : x < 12289) : new (x : Int) = x := by
  rw [new, show ((q : Nat) : Int) = (12289 : Nat) from rfl, Int.emod_eq_of_lt (Int.natCast_nonneg x) (Int.ofNat_lt.mpr h),
    Int.toNat_natCast]

theorem new_natCast_new (v : Int) : new ((new v : Nat) : Int) = new v := new_natCast (new_lt v)

theorem centred_new {v : Int} (h : -6145 < v ∧ v < 6145) :
    (if new v > 6144 then ((new v : Nat) : Int) - 12289 else (new v : Nat)) = v := by
  have := new_cast v
  split <;> omega

/-- `balanced_value` of a canonical residue: no i16 overflow, and the value -/
theorem balanced_eq (chk : Bool) (a : Nat) (ha : a < 12289) :
    balanced chk a = .ok (if a > 6144 then (a : Int) - 12289 else a) := by
  have h0 : (0 : Int) ≤ a := Int.natCast_nonneg a
  have h1 : (a : Int) < 12289 := Int.ofNat_lt.mpr ha
  have hv : value a = (a : Int) := wrapI16_eq (Int.le_trans (by decide) h0) (Int.lt_trans h1 (by decide))
  simp only [balanced, hv, q, Gen.q]
  -- the code tests against ↑12289 / 2, which is 6144 by computation
  by_cases hg : a > 6144
  · have hg' : (a : Int) > (12289 : Nat) / 2 := Int.ofNat_lt.mpr hg
    rw [if_pos hg', if_pos hg, Int.mul_one, arithS16_ok chk (by omega) (by omega)]
    rfl
  · have hg' : ¬ (a : Int) > (12289 : Nat) / 2 := fun h => hg (Int.ofNat_lt.mp h)
    rw [if_neg hg', if_neg hg, Int.mul_zero, Int.sub_zero,
      arithS16_ok chk (Int.le_trans (by decide) h0) (Int.lt_trans h1 (by decide))]

end Falcon.Zq

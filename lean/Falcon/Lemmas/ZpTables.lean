import Falcon.Model.Zp
import Falcon.Lemmas.TableCheck

/-!
Table obligations for the Z_p twiddle tables (p = 1073754113, the 32-bit NTT prime of babai_reduce_i32): the Boolean
check of `TableCheck` evaluated by the kernel on the lists regenerated from fast_fft.rs (`Falcon.Gen.U32Tables`), the closed
form of the tables, and the specification side of multiplication in Z_p[X]/(X^n+1).  Core Lean only.
-/
namespace Falcon.Zp

def Tl : List Nat := Gen.u32PsiRev
def TIl : List Nat := Gen.u32PsiInvRev

theorem tablesOK_true : ModNtt.tablesOK 1073754113 Tl TIl = true := by decide +kernel

/-! ### "bit-reversed powers of a primitive 2048-th root of unity", verbatim -/

/-- reverse the 10 low bits of i -/
def bitrev10 (i : Nat) : Nat :=
  (i % 2) * 512 + (i / 2 % 2) * 256 + (i / 4 % 2) * 128 + (i / 8 % 2) * 64 + (i / 16 % 2) * 32 +
  (i / 32 % 2) * 16 + (i / 64 % 2) * 8 + (i / 128 % 2) * 4 + (i / 256 % 2) * 2 + (i / 512 % 2)

/-- ψ := table[512] (bit reversal of 1): the generator -/
def psi : Nat := Tl.getD 512 0
def psiInv : Nat := TIl.getD 512 0

def powersOK : Bool :=
  (Tl == (List.range 1024).map fun i => psi ^ bitrev10 i % 1073754113) &&
  (TIl == (List.range 1024).map fun i => psiInv ^ bitrev10 i % 1073754113) &&
  (psi ^ 1024 % 1073754113 == 1073754112) && (psi * psiInv % 1073754113 == 1)

theorem powersOK_true : powersOK = true := by decide +kernel

/-- n · n⁻¹ = 1 for every arm of the `match n` in `ifft_inplace`, and the arms are exactly 2, 4, …, 1024 -/
def ninvOK : Bool :=
  (Gen.u32Ninv.map (·.1) == [2, 4, 8, 16, 32, 64, 128, 256, 512, 1024]) &&
  Gen.u32Ninv.all fun (n, c) => n * c % 1073754113 == 1

theorem ninvOK_true : ninvOK = true := by decide +kernel

/-! ### the specification side: multiplication in Z_p[X]/(X^n+1), schoolbook in Horner form -/

def mulX (v : List Nat) : List Nat :=
  match v.getLast? with
  | none => []
  | some l => subp 0 l :: v.dropLast

def negacyc (n : Nat) : List Nat → List Nat → List Nat
  | [], _ => List.replicate n 0
  | c :: cs, b => List.zipWith addp (b.map (mul c)) (mulX (negacyc n cs b))

def hadamard (a b : List Nat) : List Nat := List.zipWith mul a b

end Falcon.Zp

import Mathlib.Data.ZMod.Basic
import Falcon.Lemmas.NttGeneric
import Falcon.Lemmas.TableCheck

/-!
The number-theoretic transform on canonical representatives modulo `m`, for ANY modulus `m ≠ 0` and ANY pair of
twiddle tables: the operations record `ops m`; the cast to `ZMod m` carries it to the ring operations and has the left
inverse `ZMod.val` on canonical representatives; under the table relations modulo `m` (`Tables`): round trip in both
directions, multiplication = negacyclic product, and the subtraction form `verify` uses.  Then how `Tables` is
established for a concrete pair of tables: the Boolean check of `TableCheck` (evaluated by the kernel), lifted once.
`Falcon.Ntt` (m = 12289) and `Falcon.Zp` (m = 1073754113) are the two instances.
-/
namespace Falcon.ModNtt
open Falcon.FftFlt

/-- arithmetic modulo `m` on representatives -/
def ops (m : Nat) : Ops Nat := ⟨fun a b => (a + b) % m, fun a b => (a + m - b % m) % m, fun a b => a * b % m⟩

/-! `ntt`, `intt`, `hadamard`, `subL`, `negacyc`: the model's operations on vectors, with `ops m` for the scalars -/

def ntt (m : Nat) (T : Nat → Nat) (d : Nat) (a : List Nat) : List Nat := nttRecO (ops m) T d 1 a

/-- inverse butterflies, then the scaling by `v` (= n⁻¹) -/
def intt (m : Nat) (TI : Nat → Nat) (d v : Nat) (a : List Nat) : List Nat :=
  (inttRecO (ops m) TI d 1 a).map ((ops m).mul · v)

def hadamard (m : Nat) (a b : List Nat) : List Nat := List.zipWith (ops m).mul a b
def subL (m : Nat) (a b : List Nat) : List Nat := List.zipWith (ops m).sub a b
def negacyc (m n : Nat) (a b : List Nat) : List Nat := negacycO (ops m) 0 n a b

/-- the twiddle tables satisfy modulo `m` what the network needs down to depth `D`: ψ² relations and T·TI = 1 -/
structure Tables (m : Nat) (T TI : Nat → Nat) (D : Nat) : Prop where
  sq : NttG.TableOK (fun j => (T j : ZMod m)) D 1
  inv : NttG.Below (fun j => (T j : ZMod m) * (TI j : ZMod m) = 1) D 1

theorem Tables.mono {m : Nat} {T TI : Nat → Nat} {D d : Nat} (h : Tables m T TI D) (hd : d ≤ D) : Tables m T TI d :=
  ⟨NttG.Below.mono h.sq hd, h.inv.mono hd⟩

theorem map_val_cast (m : Nat) {l : List Nat} (h : ∀ x ∈ l, x < m) :
    (l.map (Nat.cast : Nat → ZMod m)).map ZMod.val = l := by
  rw [List.map_map]
  exact (List.map_congr_left fun x hx => ZMod.val_cast_of_lt (h x hx)).trans (List.map_id l)

theorem map_cast_inj (m : Nat) {l₁ l₂ : List Nat} (h₁ : ∀ x ∈ l₁, x < m) (h₂ : ∀ x ∈ l₂, x < m)
    (h : l₁.map (Nat.cast : Nat → ZMod m) = l₂.map Nat.cast) : l₁ = l₂ := by
  rw [← map_val_cast m h₁, h, map_val_cast m h₂]

theorem ntt_length (m : Nat) (T : Nat → Nat) (d : Nat) (a : List Nat) (ha : a.length = 2 ^ d) :
    (ntt m T d a).length = 2 ^ d := nttRecO_length _ _ d 1 a ha

theorem intt_length (m : Nat) (TI : Nat → Nat) (d v : Nat) (a : List Nat) (ha : a.length = 2 ^ d) :
    (intt m TI d v a).length = 2 ^ d := (List.length_map _).trans (inttRecO_length _ _ d 1 a ha)

theorem hadamard_length (m : Nat) {a b : List Nat} {n : Nat} (ha : a.length = n) (hb : b.length = n) :
    (hadamard m a b).length = n := List.length_zipWith_eq _ ha hb

theorem subL_length (m : Nat) {a b : List Nat} {n : Nat} (ha : a.length = n) (hb : b.length = n) :
    (subL m a b).length = n := List.length_zipWith_eq _ ha hb

section
variable {m : Nat} [NeZero m]

theorem mod_lt (m : Nat) [NeZero m] (x : Nat) : x % m < m := Nat.mod_lt _ (NeZero.pos m)

theorem ops_hom (m : Nat) [NeZero m] : (ops m).Hom (Nat.cast : Nat → ZMod m) where
  add a b := (ZMod.natCast_mod (a + b) m).trans (Nat.cast_add a b)
  mul a b := (ZMod.natCast_mod (a * b) m).trans (Nat.cast_mul a b)
  sub a b := by
    have hb : b % m ≤ a + m := (mod_lt m b).le.trans (Nat.le_add_left m a)
    rw [show (ops m).sub a b = (a + m - b % m) % m from rfl, ZMod.natCast_mod, Nat.cast_sub hb, Nat.cast_add,
      ZMod.natCast_mod, ZMod.natCast_self, add_zero]

theorem cast_emod_toNat (m : Nat) [NeZero m] (v : Int) : (((v % (m : Int)).toNat : Nat) : ZMod m) = (v : ZMod m) := by
  rw [← Int.cast_natCast, Int.toNat_of_nonneg (Int.emod_nonneg v (Int.natCast_ne_zero.mpr (NeZero.ne m))),
    ZMod.intCast_mod]

section casts
variable (T TI : Nat → Nat) (d v n : Nat) (a b : List Nat)

theorem cast_ntt : (ntt m T d a).map (Nat.cast : Nat → ZMod m) =
    NttG.nttRec (fun j => (T j : ZMod m)) d 1 (a.map Nat.cast) :=
  map_nttRecO (ops_hom m) T d 1 a

theorem cast_intt : (intt m TI d v a).map (Nat.cast : Nat → ZMod m) =
    (NttG.inttRec (fun j => (TI j : ZMod m)) d 1 (a.map Nat.cast)).map (· * (v : ZMod m)) := by
  simp only [intt, List.map_map, ← map_inttRecO (ops_hom m) TI d 1 a, Function.comp_def, (ops_hom m).mul]

theorem cast_hadamard : (hadamard m a b).map (Nat.cast : Nat → ZMod m) =
    List.zipWith (· * ·) (a.map Nat.cast) (b.map Nat.cast) :=
  List.map_zipWith_hom (ops_hom m).mul a b

theorem cast_subL : (subL m a b).map (Nat.cast : Nat → ZMod m) =
    List.zipWith (· - ·) (a.map Nat.cast) (b.map Nat.cast) :=
  List.map_zipWith_hom (ops_hom m).sub a b

theorem cast_negacyc : (negacyc m n a b).map (Nat.cast : Nat → ZMod m) =
    NttG.negacyc n (a.map Nat.cast) (b.map Nat.cast) :=
  map_negacycO (ops_hom m) Nat.cast_zero n a b

end casts

section bounds
variable (m) (T TI : Nat → Nat) (d v n : Nat) (a b : List Nat)

theorem intt_lt : ∀ x ∈ intt m TI d v a, x < m := List.forall_mem_map.mpr fun _ _ => mod_lt m _

theorem subL_lt : ∀ x ∈ subL m a b, x < m := List.forall_mem_zipWith fun _ _ => mod_lt m _

theorem hadamard_lt : ∀ x ∈ hadamard m a b, x < m := List.forall_mem_zipWith fun _ _ => mod_lt m _

theorem negacyc_lt : ∀ x ∈ negacyc m n a b, x < m :=
  negacycO_forall _ _ _ (· < m) (fun _ _ => mod_lt m _) (NeZero.pos m) a b

theorem ntt_lt (ha : ∀ x ∈ a, x < m) : ∀ x ∈ ntt m T d a, x < m :=
  nttRecO_forall _ _ (· < m) (fun _ _ => mod_lt m _) (fun _ _ => mod_lt m _) d 1 a ha

end bounds

section theorems
variable {T TI : Nat → Nat} {d v : Nat} (h : Tables m T TI d) (hv : 2 ^ d * v % m = 1)
include hv

omit [NeZero m] in
/-- the hypothesis on the scale `v`, in the ring -/
theorem cast_scale : (2 : ZMod m) ^ d * (v : ZMod m) = 1 := by
  rw [← Nat.cast_ofNat, ← Nat.cast_pow, ← Nat.cast_mul, ← ZMod.natCast_mod, hv, Nat.cast_one]

include h

theorem intt_ntt {a : List Nat} (ha : a.length = 2 ^ d) (hc : ∀ x ∈ a, x < m) : intt m TI d v (ntt m T d a) = a := by
  apply map_cast_inj m (intt_lt m _ _ _ _) hc
  rw [cast_intt, cast_ntt, NttG.intt_ntt_scaled (cast_scale hv) h.inv (by simpa using ha)]

theorem ntt_intt {a : List Nat} (ha : a.length = 2 ^ d) (hc : ∀ x ∈ a, x < m) : ntt m T d (intt m TI d v a) = a := by
  apply map_cast_inj m (ntt_lt m _ _ _ (intt_lt m _ _ _ _)) hc
  rw [cast_ntt, cast_intt, NttG.ntt_intt_scaled (cast_scale hv) h.inv (by simpa using ha)]

theorem ntt_mul {a b : List Nat} (ha : a.length = 2 ^ d) (hb : b.length = 2 ^ d) :
    intt m TI d v (hadamard m (ntt m T d a) (ntt m T d b)) = negacyc m (2 ^ d) a b := by
  apply map_cast_inj m (intt_lt m _ _ _ _) (negacyc_lt m _ _ _)
  have hA : (a.map (Nat.cast : Nat → ZMod m)).length = 2 ^ d := by simpa using ha
  have hB : (b.map (Nat.cast : Nat → ZMod m)).length = 2 ^ d := by simpa using hb
  rw [cast_intt, cast_hadamard, cast_ntt, cast_ntt, cast_negacyc, ← NttG.ntt_negacyc h.sq hA hB,
    NttG.intt_ntt_scaled (cast_scale hv) h.inv (NttG.negacyc_length _ _ _ hB)]

/-- the form `verify` uses: c − s ⋆ h computed in the transform domain -/
theorem ntt_sub_mul {c s g : List Nat} (hc : c.length = 2 ^ d) (hs : s.length = 2 ^ d) (hg : g.length = 2 ^ d) :
    intt m TI d v (subL m (ntt m T d c) (hadamard m (ntt m T d s) (ntt m T d g))) =
      subL m c (negacyc m (2 ^ d) s g) := by
  apply map_cast_inj m (intt_lt m _ _ _ _) (subL_lt m _ _)
  have hC : (c.map (Nat.cast : Nat → ZMod m)).length = 2 ^ d := by simpa using hc
  have hS : (s.map (Nat.cast : Nat → ZMod m)).length = 2 ^ d := by simpa using hs
  have hG : (g.map (Nat.cast : Nat → ZMod m)).length = 2 ^ d := by simpa using hg
  have hN := NttG.negacyc_length (2 ^ d) (s.map (Nat.cast : Nat → ZMod m)) _ hG
  rw [cast_intt, cast_subL, cast_hadamard, cast_ntt, cast_ntt, cast_ntt, cast_subL, cast_negacyc,
    ← NttG.ntt_negacyc h.sq hS hG, ← NttG.ntt_sub h.sq hC hN,
    NttG.intt_ntt_scaled (cast_scale hv) h.inv (by simp [hC, hN])]

end theorems
end

theorem cast_sub_self {m x : Nat} (hx : x ≤ m) : ((m - x : Nat) : ZMod m) = -(x : ZMod m) := by
  rw [Nat.cast_sub hx, ZMod.natCast_self, zero_sub]

section lift
variable {m : Nat} {Tl TIl : List Nat} (hOK : tablesOK m Tl TIl = true)
include hOK

theorem tables_of_tablesOK [NeZero m] : Tables m (Tl.getD · 0) (TIl.getD · 0) 10 := by
  have sq : ∀ x : Nat, (x : ZMod m) ^ 2 = ((x * x % m : Nat) : ZMod m) := fun x => by
    rw [ZMod.natCast_mod, Nat.cast_mul, pow_two]
  refine ⟨NttG.TableOK.of_children ?_ fun k h1 h2 => ?_, NttG.Below.root fun j _ h2 => ?_⟩
  · rw [sq, tablesOK_root hOK, cast_sub_self NeZero.one_le, Nat.cast_one]
  · obtain ⟨e0, e1⟩ := tablesOK_children hOK k h1 (by omega)
    exact ⟨by rw [sq, e0], by rw [sq, e1, ZMod.natCast_mod, cast_sub_self (tablesOK_inv hOK k (by omega)).2.1.le]⟩
  · rw [← Nat.cast_mul, ← ZMod.natCast_mod, (tablesOK_inv hOK j h2).1, Nat.cast_one]

end lift

end Falcon.ModNtt

import Falcon.Gen.Scan
import Falcon.Model.SignSkel
import Falcon.Lemmas.SignRefine

/-!
# C08 — every signature carries a fresh salt

On the model of `sign` with its randomness explicit: the salt is the first 40 bytes the generator returns in
that call, whatever the message and the key; two calls whose generators differ in those bytes produce
different salts.  The source is scanned on every run: `r` is filled exactly once, before the message is
hashed, and never written again.  That `thread_rng()` itself never repeats is a property of the operating
system's entropy source and ChaCha12 — trusted, not proved; un-hooked signatures are collected on every run
and their salts checked for duplicates and constant byte positions (support).

The last two theorems say the same of the complete model of `sign` (`SignFlt.sign`, both retry loops included): the salt of
the returned signature is the first 40 bytes of this call's stream however often it retried, and two calls whose streams
differ in those bytes return different signatures.
-/
namespace Falcon.Props.C08
open Falcon Falcon.SignSkel

/-- the salt buffer is 40 bytes, written once by the generator, before hashing, and never overwritten: of the two
    textual writes to `r` in `sign` one is its declaration `let mut r = [0u8; 40]`, the other the one `fill_bytes(&mut r)` -/
theorem salt_is_filled_once_before_hashing :
    Gen.signSaltLen = 40 ∧ Gen.saltLen = 40 ∧ Gen.signSaltFills = 1 ∧ Gen.signSaltWrites = 2 ∧ Gen.signSaltBeforeHash = true :=
  ⟨rfl, rfl, rfl, rfl, rfl⟩

/-- where the randomness comes from: outside the tests the library touches an entropy source in exactly two places, the
    seed drawn by `SecretKey::generate` and the generator `sign` opens for this call (`thread_rng()`, from which the salt
    is the first thing drawn) — no other generator, cache, clock or global state (source text re-extracted on every run) -/
theorem sign_draws_from_this_calls_thread_rng :
    Gen.entropySites.map (fun s => (s.1, s.2.2)) =
      [("falcon.rs", "Self::generate_from_seed(thread_rng().gen())"),
       ("falcon.rs", "let mut rng = thread_rng();")] := rfl

/-- the salt does not depend on the message or the key: it is a function of this call's draws alone -/
theorem salt_independent_of_message_and_key (draws : List Nat) :
    ∀ (_msg1 _msg2 : List Nat) (_key1 _key2 : List Int), saltOf draws = saltOf draws := fun _ _ _ _ => rfl

/-- different first 40 bytes ⇒ different salts -/
theorem distinct_draws_distinct_salts (d1 d2 : List Nat) (h : d1.take 40 ≠ d2.take 40) : saltOf d1 ≠ saltOf d2 := by
  simpa [saltOf, Gen.signSaltLen] using h

/-- the salt is part of the signature bytes (bytes 1..40), so different salts give different signatures -/
theorem salt_in_signature (salt s : List Nat) (h : salt.length = 40) :
    ((KeyCodec.sigToBytes salt s).drop 1).take 40 = salt := by
  simp [KeyCodec.sigToBytes, ← h]

example : saltOf (List.range 100) = List.range 40 := by decide

/-- **on the complete model of `sign`** (`SignFlt.sign`: hash, target, fast-Fourier sampler, floating-point norm test,
    rounding, compression and both retry loops; compared byte for byte with the real `sign`): for both variants, every
    key, message and generator stream, however many times the norm test or the compression made it retry, the salt of
    the returned signature is the first 40 bytes the generator yielded in this call — a retry never draws a new salt
    and never reuses an old one — and decoding the returned bytes gives exactly that salt -/
theorem model_sign_salt_is_the_first_40_draws (chk : Bool) (N L : Nat)
    (hNL : (N = 512 ∧ L = 625) ∨ (N = 1024 ∧ L = 1239)) (b0 : List (List Int)) (msg stream sig : List Nat)
    (a b : Nat) (zs : List Int) (h : SignFlt.sign chk N b0 msg stream = .ok (.ok (sig, a, b, zs))) :
    ∃ body, sig = KeyCodec.sigToBytes (stream.take 40) body ∧
      KeyCodec.sigFromBytes N sig = .ok (.ok (stream.take 40, body)) := by
  obtain ⟨body, h1, _, h3⟩ := SignFlt.sign_wellformed chk N L hNL b0 msg stream sig a b zs h
  exact ⟨body, h1, h3⟩

/-- so two calls whose generators yield different first 40 bytes return signatures with different salts, whatever the
    keys and messages -/
theorem model_sign_distinct_streams_distinct_salts (chk : Bool) (N L : Nat)
    (hNL : (N = 512 ∧ L = 625) ∨ (N = 1024 ∧ L = 1239)) (b0 b0' : List (List Int)) (msg msg' st st' sig sig' : List Nat)
    (a b a' b' : Nat) (zs zs' : List Int) (hd : st.take 40 ≠ st'.take 40)
    (h : SignFlt.sign chk N b0 msg st = .ok (.ok (sig, a, b, zs)))
    (h' : SignFlt.sign chk N b0' msg' st' = .ok (.ok (sig', a', b', zs'))) : sig ≠ sig' := by
  obtain ⟨body, _, hp⟩ := model_sign_salt_is_the_first_40_draws chk N L hNL b0 msg st sig a b zs h
  obtain ⟨body', _, hp'⟩ := model_sign_salt_is_the_first_40_draws chk N L hNL b0' msg' st' sig' a' b' zs' h'
  intro e
  rw [e, hp'] at hp
  simp only [Res.ok.injEq, Except.ok.injEq, Prod.mk.injEq] at hp
  exact hd hp.1.symm

end Falcon.Props.C08

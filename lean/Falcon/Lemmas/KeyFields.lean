import Falcon.Lemmas.KeyBits

/-!
One secret-key field, for every width: the signed (two's-complement) reading of a chunk, by its bit pattern as
falcon.rs does it (`signedField`) and from the number it spells as the reference does it (`signedOfNat`), and the statement
that reading and writing are inverse on the open range (−2^(w−1), 2^(w−1)) — the reserved pattern 10…0 is the excluded end.
Then a segment of `n` such fields, and three segments in a row (`Segments`: the body of a secret key, for either
implementation).  Core Lean only.
-/
namespace Falcon.KeyCodec
open Falcon

/-- a chunk as a signed integer, `none` for the reserved pattern; `deserializeField` is this followed by `Felt::new` -/
def signedField (c : List Bool) : Option Int :=
  match c with
  | [] => none
  | b0 :: rest =>
    if b0 && rest.all (· == false) then none
    else some (if b0 then (bitsToNat c : Int) - (2 : Int) ^ c.length else (bitsToNat c : Int))

theorem deserializeField_eq (c : List Bool) : deserializeField c = (signedField c).map Zq.new := by
  cases c with
  | nil => rfl
  | cons b0 rest =>
    simp only [deserializeField, signedField]
    split <;> rfl

/-- the range of a `w`-bit field: strictly between −2^(w−1) and 2^(w−1) -/
def FieldRange (w : Nat) (v : Int) : Prop := -(2 : Int) ^ (w - 1) < v ∧ v < (2 : Int) ^ (w - 1)

theorem FieldRange.of_natAbs {w : Nat} {v : Int} (h : v.natAbs ≤ 2 ^ (w - 1) - 1) : FieldRange w v := by
  have hp : (2 : Int) ^ (w - 1) = ((2 ^ (w - 1) : Nat) : Int) := by simp
  have : 0 < 2 ^ (w - 1) := Nat.pow_pos (by decide)
  rw [FieldRange, hp]; omega

/-- the same reading from the number `u` that the `w` bits spell: two's complement, `none` for 2^(w−1) (this is how the
    reference's `trim_i8_decode` computes a field) -/
def signedOfNat (w u : Nat) : Option Int :=
  if u = 2 ^ (w - 1) then none
  else some (if u ≥ 2 ^ (w - 1) then (u : Int) - (2 : Int) ^ w else (u : Int))

theorem signedOfNat_bitsToNat (c : List Bool) (hc : 1 ≤ c.length) : signedOfNat c.length (bitsToNat c) = signedField c := by
  match c, hc with
  | b0 :: rest, _ =>
    have hr := bitsToNat_lt rest
    have hz := bitsToNat_eq_zero_iff rest
    have hu : bitsToNat (b0 :: rest) = (if b0 then 1 else 0) * 2 ^ rest.length + bitsToNat rest := rfl
    simp only [signedOfNat, signedField, hu, List.length_cons, Nat.add_sub_cancel]
    -- the top bit is the sign.  Clear: the number is below 2^(w−1) and is the value.  Set with another bit: above
    -- 2^(w−1), value u − 2^w.  Set alone: 2^(w−1) itself, the reserved pattern, refused by both readings
    cases b0
    · rw [if_neg (by simp; omega), if_neg (by simp; omega)]; rfl
    · cases hall : rest.all (· == false)
      · have : bitsToNat rest ≠ 0 := fun h => by rw [hz.mp h] at hall; cases hall
        rw [if_neg (by simp; omega), if_pos (by simp)]; rfl
      · rw [if_pos (by simp [hz.mpr hall])]; rfl

theorem emod_of_range {P v : Int} (h1 : -P < v) (h2 : v < P) : v % (P * 2) = if 0 ≤ v then v else v + P * 2 := by
  split
  · exact Int.emod_eq_of_lt (by omega) (by omega)
  · rw [← Int.add_emod_right, Int.emod_eq_of_lt (by omega) (by omega)]

theorem signedOfNat_eq_some_iff (w u : Nat) (hw : 1 ≤ w) (hu : u < 2 ^ w) (v : Int) :
    signedOfNat w u = some v ↔ FieldRange w v ∧ (u : Int) = v % (2 : Int) ^ w := by
  obtain ⟨k, rfl⟩ : ∃ k, w = k + 1 := ⟨w - 1, by omega⟩
  have hp : (2 : Int) ^ k = ((2 ^ k : Nat) : Int) := by simp
  simp only [signedOfNat, FieldRange, Nat.add_sub_cancel, Int.pow_succ, Nat.pow_succ, hp] at hu ⊢
  generalize 2 ^ k = P at *
  -- with `v mod 2P` written out on the range of v, both sides are linear arithmetic over `if`s
  rw [and_congr_right fun h => (by rw [emod_of_range h.1 h.2] :
    (u : Int) = v % (P * 2) ↔ (u : Int) = if 0 ≤ v then v else v + P * 2)]
  by_cases hP : u = P
  · rw [if_pos hP]; exact iff_of_false nofun (by omega)
  · rw [if_neg hP, Option.some.injEq]; omega

theorem signedField_eq_some_iff (c : List Bool) (hc : 1 ≤ c.length) (v : Int) :
    signedField c = some v ↔ FieldRange c.length v ∧ intBits c.length v = c := by
  rw [← signedOfNat_bitsToNat c hc, signedOfNat_eq_some_iff _ _ hc (bitsToNat_lt c), intBits_eq_iff]

theorem signedField_intBits (w : Nat) (hw : 1 ≤ w) (v : Int) (hv : FieldRange w v) : signedField (intBits w v) = some v := by
  have hl := intBits_length w v
  refine (signedField_eq_some_iff _ (by rw [hl]; exact hw) v).mpr ?_
  rw [hl]
  exact ⟨hv, rfl⟩

theorem deserializeField_intBits (w : Nat) (hw : 1 ≤ w) (v : Int) (hv : FieldRange w v) :
    deserializeField (intBits w v) = some (Zq.new v) := by
  rw [deserializeField_eq, signedField_intBits w hw v hv]; rfl

/-- `p` at each of the `cnt` integers from `lo` on, as one Boolean (`allIn_iff`) -/
def allIn (lo : Int) (cnt : Nat) (p : Int → Bool) : Bool := (List.range cnt).all fun i => p (lo + (i : Nat))

theorem allIn_iff (lo : Int) (cnt : Nat) (p : Int → Bool) : allIn lo cnt p = true ↔ ∀ v, lo ≤ v → v < lo + cnt → p v = true := by
  simp only [allIn, List.all_eq_true, List.mem_range]
  constructor
  · intro h v h1 h2
    have := h (v - lo).toNat (by omega)
    rwa [show lo + ((v - lo).toNat : Int) = v by omega] at this
  · intro h i hi
    exact h _ (by omega) (by omega)

/-- field round trip, complete: for each width w ∈ {5, 6, 8} and every v with |v| ≤ 2^(w−1) − 1 -/
theorem field_roundtrip_all :
    allIn (-15) 31 (fun v => deserializeField (intBits 5 v) == some (Zq.new v)) = true ∧
    allIn (-31) 63 (fun v => deserializeField (intBits 6 v) == some (Zq.new v)) = true ∧
    allIn (-127) 255 (fun v => deserializeField (intBits 8 v) == some (Zq.new v)) = true := by
  refine ⟨(allIn_iff ..).mpr fun v h1 h2 => ?_, (allIn_iff ..).mpr fun v h1 h2 => ?_, (allIn_iff ..).mpr fun v h1 h2 => ?_⟩
  · rw [deserializeField_intBits 5 (by decide) v ⟨by omega, by omega⟩]; exact beq_self_eq_true _
  · rw [deserializeField_intBits 6 (by decide) v ⟨by omega, by omega⟩]; exact beq_self_eq_true _
  · rw [deserializeField_intBits 8 (by decide) v ⟨by omega, by omega⟩]; exact beq_self_eq_true _

theorem fields_length (w : Nat) (l : List Int) : ((l.map (intBits w)).flatten).length = l.length * w :=
  length_flatten_map (intBits w) (intBits_length w) l

theorem readFields_signed_iff (w n : Nat) (hw : 1 ≤ w) (S : List Bool) (hS : S.length = n * w) (vs : List Int) :
    readFields signedField w n S = some vs ↔
      (∀ v ∈ vs, FieldRange w v) ∧ vs.length = n ∧ (vs.map (intBits w)).flatten = S :=
  readFields_eq_some_iff signedField (intBits w) (FieldRange w) w (intBits_length w) (fun c v hc => by
    have := signedField_eq_some_iff c (by rw [hc]; exact hw) v
    rwa [hc] at this) n S vs hS

theorem mapM_map_option {α β γ : Type} (f : α → Option β) (g : β → γ) : ∀ (l : List α),
    l.mapM (fun c => (f c).map g) = (l.mapM f).map (List.map g)
  | [] => rfl
  | a :: l => by
    rw [List.mapM_cons, List.mapM_cons, mapM_map_option f g l]
    cases f a <;> cases l.mapM f <;> rfl

theorem decodeFields_eq (w n : Nat) (hw : 1 ≤ w) (bits : List Bool) (hlen : n * w ≤ bits.length) :
    decodeFields w n bits = (readFields signedField w n (bits.take (n * w))).map (List.map Zq.new) := by
  have hl : (bits.take (n * w)).length = n * w := by rw [List.length_take, Nat.min_eq_left hlen]
  rw [decodeFields, funext deserializeField_eq, mapM_map_option, mapM_chunks signedField w hw n _ _ hl (Nat.le_succ n)]

theorem append3_iff {α : Type} (bits A B C : List α) :
    bits = A ++ B ++ C ↔ bits.take A.length = A ∧ (bits.drop A.length).take B.length = B ∧
      (bits.drop (A.length + B.length)).take C.length = C ∧ bits.length = A.length + B.length + C.length := by
  constructor
  · rintro rfl
    simp [List.append_assoc, ← List.drop_drop, Nat.add_assoc]
  · rintro ⟨h1, h2, h3, h4⟩
    have e3 : bits.drop (A.length + B.length) = C := by
      rw [← h3]; exact (List.take_of_length_le (by rw [List.length_drop]; omega)).symm
    rw [← List.take_append_drop A.length bits, ← List.take_append_drop B.length (bits.drop A.length), List.drop_drop, h1, h2, e3,
      List.append_assoc]

/-- `S` consists of three segments of `n` signed fields each, of widths `w₁`, `w₂`, `w₃`: the encodings of `v₁`, `v₂`, `v₃`,
    every value strictly inside the range of its width -/
def Segments (n w₁ w₂ w₃ : Nat) (S : List Bool) (v₁ v₂ v₃ : List Int) : Prop :=
  ((∀ v ∈ v₁, FieldRange w₁ v) ∧ v₁.length = n) ∧ ((∀ v ∈ v₂, FieldRange w₂ v) ∧ v₂.length = n) ∧
    ((∀ v ∈ v₃, FieldRange w₃ v) ∧ v₃.length = n) ∧
    S = (v₁.map (intBits w₁)).flatten ++ (v₂.map (intBits w₂)).flatten ++ (v₃.map (intBits w₃)).flatten

theorem Segments.length {n w₁ w₂ w₃ : Nat} {S : List Bool} {v₁ v₂ v₃ : List Int} (h : Segments n w₁ w₂ w₃ S v₁ v₂ v₃) :
    S.length = n * w₁ + n * w₂ + n * w₃ := by
  obtain ⟨⟨_, l₁⟩, ⟨_, l₂⟩, ⟨_, l₃⟩, rfl⟩ := h
  rw [List.length_append, List.length_append, fields_length, fields_length, fields_length, l₁, l₂, l₃]

theorem readSegments_iff (n w₁ w₂ w₃ : Nat) (h₁ : 1 ≤ w₁) (h₂ : 1 ≤ w₂) (h₃ : 1 ≤ w₃) (S : List Bool) (v₁ v₂ v₃ : List Int) :
    (S.length = n * w₁ + n * w₂ + n * w₃ ∧
      readFields signedField w₁ n (S.take (n * w₁)) = some v₁ ∧
      readFields signedField w₂ n ((S.drop (n * w₁)).take (n * w₂)) = some v₂ ∧
      readFields signedField w₃ n ((S.drop (n * w₁ + n * w₂)).take (n * w₃)) = some v₃) ↔
    Segments n w₁ w₂ w₃ S v₁ v₂ v₃ := by
  have hl : ∀ (w k : Nat), k + n * w ≤ S.length → ((S.drop k).take (n * w)).length = n * w :=
    fun w k h => List.length_take_of_le (by rw [List.length_drop]; exact Nat.le_sub_of_add_le' h)
  -- both sides give the length of S; under it each segment has its `n * w` bits and `readFields_signed_iff` applies
  have key : S.length = n * w₁ + n * w₂ + n * w₃ →
      (readFields signedField w₁ n (S.take (n * w₁)) = some v₁ ∧
        readFields signedField w₂ n ((S.drop (n * w₁)).take (n * w₂)) = some v₂ ∧
        readFields signedField w₃ n ((S.drop (n * w₁ + n * w₂)).take (n * w₃)) = some v₃ ↔
      Segments n w₁ w₂ w₃ S v₁ v₂ v₃) := fun hS => by
    have i₁ := readFields_signed_iff w₁ n h₁ _ (hl w₁ 0 (by omega)) v₁
    have i₂ := readFields_signed_iff w₂ n h₂ _ (hl w₂ (n * w₁) (by omega)) v₂
    have i₃ := readFields_signed_iff w₃ n h₃ _ (hl w₃ (n * w₁ + n * w₂) (by omega)) v₃
    rw [List.drop_zero] at i₁
    rw [i₁, i₂, i₃]
    constructor
    · rintro ⟨⟨a₁, l₁, e₁⟩, ⟨a₂, l₂, e₂⟩, ⟨a₃, l₃, e₃⟩⟩
      refine ⟨⟨a₁, l₁⟩, ⟨a₂, l₂⟩, ⟨a₃, l₃⟩, ?_⟩
      rw [append3_iff, fields_length, fields_length, fields_length, l₁, l₂, l₃]
      exact ⟨e₁.symm, e₂.symm, e₃.symm, hS⟩
    · rintro ⟨⟨a₁, l₁⟩, ⟨a₂, l₂⟩, ⟨a₃, l₃⟩, h⟩
      rw [append3_iff, fields_length, fields_length, fields_length, l₁, l₂, l₃] at h
      exact ⟨⟨a₁, l₁, h.1.symm⟩, ⟨a₂, l₂, h.2.1.symm⟩, ⟨a₃, l₃, h.2.2.1.symm⟩⟩
  exact ⟨fun ⟨hS, r⟩ => (key hS).mp r, fun h => ⟨h.length, (key h.length).mpr h⟩⟩

/-- the left side is what the tail of `SecretKey::from_bytes` checks -/
theorem decodeSegments_iff (n w₁ w₂ w₃ : Nat) (h₁ : 1 ≤ w₁) (h₂ : 1 ≤ w₂) (h₃ : 1 ≤ w₃) (S : List Bool)
    (r : List Nat × List Nat × List Nat) :
    (S.length = n * w₁ + n * w₂ + n * w₃ ∧ decodeFields w₁ n S = some r.1 ∧ decodeFields w₂ n (S.drop (n * w₁)) = some r.2.1 ∧
      decodeFields w₃ n (S.drop (n * w₁ + n * w₂)) = some r.2.2) ↔
    ∃ v₁ v₂ v₃, Segments n w₁ w₂ w₃ S v₁ v₂ v₃ ∧ r.1 = v₁.map Zq.new ∧ r.2.1 = v₂.map Zq.new ∧ r.2.2 = v₃.map Zq.new := by
  simp only [← readSegments_iff n w₁ w₂ w₃ h₁ h₂ h₃]
  have q₁ := fun h => decodeFields_eq w₁ n h₁ S h
  have q₂ := fun h => decodeFields_eq w₂ n h₂ (S.drop (n * w₁)) (by rw [List.length_drop]; exact h)
  have q₃ := fun h => decodeFields_eq w₃ n h₃ (S.drop (n * w₁ + n * w₂)) (by rw [List.length_drop]; exact h)
  constructor
  · rintro ⟨hS, d₁, d₂, d₃⟩
    rw [q₁ (by omega), Option.map_eq_some_iff] at d₁
    rw [q₂ (by omega), Option.map_eq_some_iff] at d₂
    rw [q₃ (by omega), Option.map_eq_some_iff] at d₃
    obtain ⟨v₁, e₁, c₁⟩ := d₁
    obtain ⟨v₂, e₂, c₂⟩ := d₂
    obtain ⟨v₃, e₃, c₃⟩ := d₃
    exact ⟨v₁, v₂, v₃, ⟨hS, e₁, e₂, e₃⟩, c₁.symm, c₂.symm, c₃.symm⟩
  · rintro ⟨v₁, v₂, v₃, ⟨hS, e₁, e₂, e₃⟩, c₁, c₂, c₃⟩
    rw [q₁ (by omega), q₂ (by omega), q₃ (by omega), e₁, e₂, e₃, c₁, c₂, c₃]
    exact ⟨hS, rfl, rfl, rfl⟩

end Falcon.KeyCodec

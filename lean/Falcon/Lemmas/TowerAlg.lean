import Falcon.Lemmas.RingZEval

/-!
The tower of NTRUSolve on coefficient lists: `galois_adjoint` is f(X) ↦ f(−X), `lift_next_cyclotomic` is
f(X) ↦ f(X²), `field_norm` is the relative norm N(f)(X²) = f(X)·f(−X), at every root of Xⁿ+1 in every commutative
ring — hence the lifting step of NTRUSolve carries a solution of f⋆G − g⋆F = q one level up (`Solves.lift`; `Solves` names
"has n coefficients and satisfies the equation at every root").  At the bottom of the tower Bézout coefficients scaled by
q are a solution (`Solves.base`), and the extended gcd of `math.rs` returns Bézout coefficients (`xgcd_bezout`).
-/
namespace Falcon.RingZ
open Falcon

variable {R : Type} [CommRing R]

theorem ev_adjoint : ∀ (f : List Int) (ρ : R), ev (adjoint f) ρ = ev f (-ρ)
  | [], ρ => by simp [adjoint, ev_nil]
  | [x], ρ => by simp [adjoint, ev_cons, ev_nil]
  | x :: y :: rest, ρ => by
    simp only [adjoint, ev_cons, ev_adjoint rest ρ, Int.cast_neg]
    ring

theorem ev_lift : ∀ (f : List Int) (ρ : R), ev (lift f) ρ = ev f (ρ * ρ)
  | [], ρ => by simp [lift, ev_nil]
  | x :: rest, ρ => by
    simp only [lift, ev_cons, ev_lift rest ρ, Int.cast_zero]
    ring

theorem ev_even_odd : ∀ (f : List Int) (ρ : R), ev f ρ = ev (evens f) (ρ * ρ) + ρ * ev (odds f) (ρ * ρ)
  | [], ρ => by simp [evens, odds, ev_nil]
  | [x], ρ => by simp [evens, odds, ev_cons, ev_nil]
  | x :: y :: rest, ρ => by
    simp only [evens, odds, ev_cons, ev_even_odd rest ρ]
    ring

theorem evens_odds_length : ∀ (m : Nat) (f : List Int), f.length = 2 * m → (evens f).length = m ∧ (odds f).length = m
  | 0, [], _ => ⟨rfl, rfl⟩
  | m + 1, x :: y :: rest, h => by
    obtain ⟨le, lo⟩ := evens_odds_length m rest (by simp only [List.length_cons] at h; omega)
    exact ⟨congrArg (· + 1) le, congrArg (· + 1) lo⟩
  | 0, _ :: _, h | _ + 1, [], h | _ + 1, [_], h => by simp only [List.length_cons, List.length_nil] at h; omega

theorem adjoint_length : ∀ f : List Int, (adjoint f).length = f.length
  | [] => rfl
  | [x] => rfl
  | x :: y :: rest => by simp [adjoint, adjoint_length rest]

theorem lift_length : ∀ f : List Int, (lift f).length = 2 * f.length
  | [] => rfl
  | x :: rest => by simp [lift, lift_length rest]; omega

theorem fieldNorm_terms_length (m : Nat) (f : List Int) (hf : f.length = 2 * m) :
    (negacyc m (evens f) (evens f)).length = m ∧ (mulX (negacyc m (odds f) (odds f))).length = m := by
  obtain ⟨le, lo⟩ := evens_odds_length m f hf
  exact ⟨negacyc_length m _ _ le, by rw [mulX_length, negacyc_length m _ _ lo]⟩

theorem ev_fieldNorm_parts (m : Nat) (f : List Int) (hf : f.length = 2 * m) (σ : R) (hσ : σ ^ m = -1) :
    ev (fieldNorm (2 * m) f) σ = ev (evens f) σ * ev (evens f) σ - σ * (ev (odds f) σ * ev (odds f) σ) := by
  obtain ⟨le, lo⟩ := evens_odds_length m f hf
  obtain ⟨l1, l2⟩ := fieldNorm_terms_length m f hf
  rw [fieldNorm, Nat.mul_div_cancel_left m (by decide : 0 < 2), ev_subL l1 l2,
    ev_negacyc m _ _ le _ hσ, ev_mulX m _ (negacyc_length m _ _ lo) _ hσ, ev_negacyc m _ _ lo _ hσ]

theorem sq_root {ρ : R} {m : Nat} (hρ : ρ ^ (2 * m) = -1) : (ρ * ρ) ^ m = -1 := by
  rw [← pow_two, ← pow_mul]; exact hρ

theorem ev_fieldNorm (m : Nat) (f : List Int) (hf : f.length = 2 * m) (ρ : R) (hρ : ρ ^ (2 * m) = -1) :
    ev (fieldNorm (2 * m) f) (ρ * ρ) = ev f ρ * ev f (-ρ) := by
  rw [ev_fieldNorm_parts m f hf _ (sq_root hρ), ev_even_odd f ρ, ev_even_odd f (-ρ),
    neg_mul_neg]
  ring

theorem ev_lift_fieldNorm (m : Nat) (hm : 0 < m) (f : List Int) (hf : f.length = 2 * m) (ρ : R) (hρ : ρ ^ (2 * m) = -1) :
    ev (lift (fieldNorm (2 * m) f)) ρ = ev f ρ * ev (adjoint f) ρ := by
  rw [ev_lift, ev_fieldNorm m f hf ρ hρ, ev_adjoint]

/-- `n = 2 * m` is a hypothesis so that the recursions, which run on n = 2^(d+1), use this as it stands -/
theorem fieldNorm_length {n m : Nat} (hn : n = 2 * m) (f : List Int) (hf : f.length = n) :
    (fieldNorm n f).length = m := by
  subst hn
  obtain ⟨l1, l2⟩ := fieldNorm_terms_length m f hf
  rw [fieldNorm, Nat.mul_div_cancel_left m (by decide : 0 < 2)]
  exact subL_length l1 l2

theorem ntruLhs_length {n : Nat} (f g : List Int) {F G : List Int} (hF : F.length = n) (hG : G.length = n) :
    (ntruLhs n f g F G).length = n :=
  subL_length (negacyc_length n f G hG) (negacyc_length n g F hF)

theorem ev_ntruLhs {n : Nat} (f g : List Int) {F G : List Int} (hF : F.length = n) (hG : G.length = n)
    (ρ : R) (hρ : ρ ^ n = -1) : ev (ntruLhs n f g F G) ρ = ev f ρ * ev G ρ - ev g ρ * ev F ρ := by
  unfold ntruLhs
  rw [ev_subL (negacyc_length n f G hG) (negacyc_length n g F hF), ev_negacyc n f G hG ρ hρ, ev_negacyc n g F hF ρ hρ]

theorem liftStep_sound (m : Nat) (hm : 0 < m) (f g cF' cG' : List Int) (hf : f.length = 2 * m) (hg : g.length = 2 * m)
    (ρ : R) (hρ : ρ ^ (2 * m) = -1) (Q : R)
    (h : ev (fieldNorm (2 * m) f) (ρ * ρ) * ev cG' (ρ * ρ) - ev (fieldNorm (2 * m) g) (ρ * ρ) * ev cF' (ρ * ρ) = Q) :
    ev f ρ * ev (liftStep (2 * m) f g cF' cG').2 ρ - ev g ρ * ev (liftStep (2 * m) f g cF' cG').1 ρ = Q := by
  unfold liftStep
  simp only
  rw [ev_negacyc (2 * m) _ _ (by rw [adjoint_length, hf]) ρ hρ, ev_negacyc (2 * m) _ _ (by rw [adjoint_length, hg]) ρ hρ,
    ev_lift, ev_lift, ev_adjoint, ev_adjoint]
  rw [ev_fieldNorm m f hf ρ hρ, ev_fieldNorm m g hg ρ hρ] at h
  linear_combination h

/-- (F, G) has n coefficients and solves f⋆G − g⋆F = q at every root of Xⁿ+1 in R -/
structure Solves (R : Type) [CommRing R] (n : Nat) (f g F G : List Int) : Prop where
  lenF : F.length = n
  lenG : G.length = n
  eq : ∀ ρ : R, ρ ^ n = -1 → ev f ρ * ev G ρ - ev g ρ * ev F ρ = (12289 : R)

theorem Solves.of_exact {n : Nat} {f g F G : List Int} (hF : F.length = n) (hG : G.length = n)
    (h : ntruLhs n f g F G = (12289 : Int) :: List.replicate (n - 1) 0) : Solves R n f g F G :=
  ⟨hF, hG, fun ρ hρ => by rw [← ev_ntruLhs f g hF hG ρ hρ, h, ev_const, Int.cast_ofNat]⟩

theorem Solves.lift {n m : Nat} (hn : n = 2 * m) (hm : 0 < m) {f g F' G' : List Int} (hf : f.length = n) (hg : g.length = n)
    (h : Solves R m (fieldNorm n f) (fieldNorm n g) F' G') :
    Solves R n f g (liftStep n f g F' G').1 (liftStep n f g F' G').2 := by
  subst hn
  exact ⟨negacyc_length _ _ _ (by rw [adjoint_length, hg]), negacyc_length _ _ _ (by rw [adjoint_length, hf]),
    fun ρ hρ => liftStep_sound m hm f g F' G' hf hg ρ hρ _ (h.eq (ρ * ρ) (sq_root hρ))⟩

-- at `2 ^ 0`, not `1`: the recursions conclude `Solves R (2 ^ d)` and use this at d = 0
theorem Solves.base {f0 g0 u v : Int} (h : u * f0 + v * g0 = 1) :
    Solves R (2 ^ 0) [f0] [g0] [-v * 12289] [u * 12289] := by
  refine ⟨rfl, rfl, fun ρ _ => ?_⟩
  simp only [ev_cons, ev_nil, mul_zero, add_zero]
  have := congrArg (Int.cast : Int → R) h
  push_cast at this ⊢
  linear_combination (12289 : R) * this

theorem xgcdGo_inv (a b x r os s ot t : Int) (h1 : os * a + ot * b = x) (h2 : s * a + t * b = r) :
    (xgcdGo x r os s ot t).2.1 * a + (xgcdGo x r os s ot t).2.2 * b = (xgcdGo x r os s ot t).1 := by
  fun_induction xgcdGo x r os s ot t with
  | case1 x os s ot t => exact h1
  | case2 x r os s ot t hr ih => exact ih h2 (by linear_combination h1 - Int.tdiv x r * h2)

theorem xgcdGo_gcd (x r os s ot t : Int) : (xgcdGo x r os s ot t).1.natAbs = Nat.gcd x.natAbs r.natAbs := by
  fun_induction xgcdGo x r os s ot t with
  | case1 x os s ot t => exact (Nat.gcd_zero_right _).symm
  | case2 x r os s ot t hr ih =>
    -- gcd(r, x mod r) = gcd(x, r)
    rw [ih, sub_tdiv_mul, Int.natAbs_tmod, Nat.gcd_comm x.natAbs, Nat.gcd_rec r.natAbs x.natAbs, Nat.gcd_comm]

theorem xgcd_bezout (a b : Int) : (xgcd a b).2.1 * a + (xgcd a b).2.2 * b = (xgcd a b).1 :=
  xgcdGo_inv a b a b 1 0 0 1 (by omega) (by omega)

theorem xgcd_gcd (a b : Int) : (xgcd a b).1.natAbs = Int.gcd a b :=
  xgcdGo_gcd a b 1 0 0 1

end Falcon.RingZ

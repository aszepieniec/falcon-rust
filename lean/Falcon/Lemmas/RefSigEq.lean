import Falcon.Spec.RefSig
import Falcon.Lemmas.CodecSpec
import Falcon.Lemmas.RefAcc

/-!
  The reference's signature decoder `comp_decode` (transcribed in `Spec/RefSig`) against Algorithm 18.

  The state of the reader is described by `Reads` (Lemmas/RefAcc).  The inner unary loop is related to
  `Spec.readUnary 16` (the reference refuses a run of 16 zeros: m > 2047) and the outer loop to "decode n coefficients,
  return the remaining bits" (`decN`, Lemmas/CodecSpec) by one induction each (`unary_reads`, `sig_go_reads`), stated as
  relations between the two results (`URel`, `GRel`) so that both directions follow.  `compDecode_some` and
  `compDecode_of_decN` are the two directions for a whole byte string; `compDecode_sound`, `compDecode_complete` and, since
  `decN` accepts exactly the encodings followed by anything, `compDecode_strip` are read off them.  The cap lemmas relate
  the reference's cap to this library's (95 zeros).  For Props/C16 also: `decompressRef_two_pow`, `unpack_eq` (the bit strings of
  `Spec` and of `KeyCodec` are the same function), `bitsOfBytes_all_false`.  Core Lean only.
-/
namespace Falcon.RefEq
open Falcon Falcon.KeyCodec

/-- how the reference's unary loop and the specification's `readUnary` (cap 16) relate -/
def URel (bitsOf : List Nat → List Bool) (bytes0 : List Nat) :
    Option (Nat × Nat × Nat × List Nat) → Option (Nat × List Bool) → Prop
  | some (z, acc, al, bytes), some (k, R) =>
    z = k ∧ al ≤ 7 ∧ (∃ pend, R = pend ++ bitsOf bytes ∧ Inv acc al pend) ∧ ∃ used, bytes0 = used ++ bytes
  | none, none => True
  | _, _ => False

theorem URel_append (used rest : List Nat) (x : Option (Nat × Nat × Nat × List Nat)) (y : Option (Nat × List Bool))
    (h : URel bitsOfBytes rest x y) : URel bitsOfBytes (used ++ rest) x y := by
  match x, y, h with
  | some (z, acc, al, bytes), some (k, R), h =>
    obtain ⟨h1, h2, h3, used', h4⟩ := h
    exact ⟨h1, h2, h3, used ++ used', by rw [h4, List.append_assoc]⟩
  | none, none, _ => trivial

/-- the reference's cap: `m = low + 128 (z + 1)` exceeds 2047 exactly when the run has reached sixteen zeros -/
theorem cap_iff {low : Nat} (hlow : low ≤ 127) (z : Nat) : low + 128 * (z + 1) > 2047 ↔ z + 1 ≥ 16 := by omega

theorem unary_reads (low : Nat) (hlow : low ≤ 127) : ∀ (fuel z acc al : Nat) (bytes : List Nat) (S : List Bool),
    Reads acc al bytes S → al ≤ 8 → (∀ b ∈ bytes, b < 256) → z + fuel = 17 → low + 128 * z ≤ 2047 →
    URel bitsOfBytes bytes (RefSig.unary low fuel z acc al bytes) (Spec.readUnary 16 S z)
  | 0, z, _, _, _, _, _, _, _, hz, hm => by omega
  | fuel + 1, z, acc, al, bytes, S, hR, hal, hb, hz, hm => by
    have hz' : z + 1 + fuel = 17 := by omega
    -- after the refill at least one bit is pending; take it
    have tail : ∀ (acc' al' : Nat) (bytes' used : List Nat), 1 ≤ al' → al' ≤ 8 → Reads acc' al' bytes' S →
        bytes = used ++ bytes' → (∀ b ∈ bytes', b < 256) →
        URel bitsOfBytes bytes (if (acc' / 2 ^ (al' - 1)) % 2 ≠ 0 then some (z, acc', al' - 1, bytes')
          else if low + 128 * (z + 1) > 2047 then none else RefSig.unary low fuel (z + 1) acc' (al' - 1) bytes')
          (Spec.readUnary 16 S z) := by
      rintro acc' al' bytes' used h1 h8 hR' rfl hb'
      -- stated here because `omega` is slow once the equation of the popped bit, with its `/` and `%`, is in the context
      have h7 : al' - 1 ≤ 7 := by omega
      obtain ⟨p, S', rfl, hbit, hR''⟩ := hR'.pop_one h1
      refine URel_append used bytes' _ _ ?_
      rw [hbit]
      cases p with
      | true =>
        rw [if_pos rfl, if_pos (by decide)]
        obtain ⟨pend, hinv, rfl⟩ := hR''
        exact ⟨rfl, h7, ⟨pend, rfl, hinv⟩, [], rfl⟩
      | false =>
        rw [if_neg (by decide : ¬ false = true), if_neg (by decide : ¬ (0 : Nat) ≠ 0), Spec.readUnary]
        rcases Nat.lt_or_ge 2047 (low + 128 * (z + 1)) with hcap | hcap
        · rw [if_pos hcap, if_pos ((cap_iff hlow z).mp hcap)]; trivial
        · rw [if_neg (Nat.not_lt.mpr hcap), if_neg (mt (cap_iff hlow z).mpr (Nat.not_lt.mpr hcap))]
          exact unary_reads low hlow fuel (z + 1) acc' (al' - 1) bytes' S' hR'' (Nat.le_succ_of_le h7) hb' hz' hcap
    rcases Nat.eq_zero_or_pos al with h0 | h0
    · subst h0
      cases bytes with
      | nil =>
        obtain rfl : S = [] := List.eq_nil_of_length_eq_zero hR.length
        simp [RefSig.unary, Spec.readUnary, URel]
      | cons b rest =>
        simp only [RefSig.unary, if_true]
        exact tail _ 8 rest [b] (by decide) (by decide) (hR.push (Nat.zero_le 24) (Spec.WF.head hb)) rfl (Spec.WF.tail hb)
    · simp only [RefSig.unary, Nat.ne_of_gt h0, if_false]
      exact tail acc al bytes [] h0 hal hR rfl hb

theorem unary_spec (low : Nat) (hlow : low ≤ 127) : ∀ (fuel z acc al : Nat) (pend : List Bool) (bytes : List Nat),
    Inv acc al pend → al ≤ 8 → (∀ b ∈ bytes, b < 256) → z + fuel = 17 → low + 128 * z ≤ 2047 →
    URel bitsOfBytes bytes (RefSig.unary low fuel z acc al bytes) (Spec.readUnary 16 (pend ++ bitsOfBytes bytes) z) :=
  fun fuel z acc al pend bytes hinv => unary_reads low hlow fuel z acc al bytes _ ⟨pend, hinv, rfl⟩

/-- how the reference's main loop and `decN 16` relate.  Both succeed: same coefficients, and what `decN` leaves is fewer than
    8 pending zero bits followed by the unread bytes.  The reference alone fails (`none, some`): only through its last test,
    the pending bits after the n-th coefficient are not all zero.  The reference never succeeds where `decN` fails. -/
def GRel (bytes0 : List Nat) (out : List Int) : Option (List Int × List Nat) → Option (List Int × List Bool) → Prop
  | some (xs, rest), some (cs, R) =>
    xs = out.reverse ++ cs ∧ (∃ pend, R = pend ++ bitsOfBytes rest ∧ pend.length ≤ 7 ∧ pend.all (· == false) = true) ∧
      ∃ used, bytes0 = used ++ rest
  | none, some (_, R) => ∃ pend rest, R = pend ++ bitsOfBytes rest ∧ pend.length ≤ 7 ∧ pend.all (· == false) = false
  | none, none => True
  | some _, none => False

theorem exists_cons_append {α : Type} (S : List α) (k : Nat) (h : k + 1 ≤ S.length) :
    ∃ a l tl, l.length = k ∧ S = a :: (l ++ tl) := by
  match S, h with
  | a :: S', h =>
    exact ⟨a, S'.take k, S'.drop k, by rw [List.length_take]; simp at h; omega, by rw [List.take_append_drop]⟩

/-- the byte `s b6 … b0` as the reference splits it: sign `w >> 7`, low bits `w & 127` -/
theorem top_byte (s : Bool) (l7 : List Bool) (h : l7.length = 7) :
    (bitsToNat (s :: l7) / 128 ≠ 0 ↔ s = true) ∧ bitsToNat (s :: l7) % 128 = bitsToNat l7 ∧ bitsToNat l7 ≤ 127 := by
  have hlt := bitsToNat_lt l7
  rw [h] at hlt
  rw [bitsToNat, h]
  cases s <;> simp <;> omega

/-- the reference's magnitude `m = low + 128 z`, its "-0" test and its signed value are the specification's -/
theorem negZero_iff (s : Bool) (z low : Nat) : Spec.negZero s z low = true ↔ s = true ∧ low + 128 * z = 0 := by
  cases s <;> simp [Spec.negZero] <;> omega

theorem coefValue_eq (s : Bool) (z low : Nat) :
    Spec.coefValue s z low = if s = true then -((low + 128 * z : Nat) : Int) else ((low + 128 * z : Nat) : Int) := by
  cases s <;> simp [Spec.coefValue] <;> omega

theorem GRel_step (used bytes : List Nat) (c : Int) (out : List Int) (x : Option (List Int × List Nat))
    (y : Option (List Int × List Bool)) (h : GRel bytes (c :: out) x y) :
    GRel (used ++ bytes) out x (y.map fun q => (c :: q.1, q.2)) := by
  match x, y, h with
  | some (xs, rest), some (cs, R), ⟨h1, h2, used', h3⟩ =>
    exact ⟨by rw [h1, List.reverse_cons, List.append_assoc]; rfl, h2, used ++ used', by rw [h3, List.append_assoc]⟩
  | none, some (_, R), h => exact h
  | none, none, _ => trivial

theorem sig_go_reads : ∀ (cnt acc al : Nat) (bytes : List Nat) (S : List Bool) (out : List Int),
    Reads acc al bytes S → al ≤ 7 → (∀ b ∈ bytes, b < 256) →
    GRel bytes out (RefSig.go cnt acc al bytes out) (decN 16 cnt S)
  | 0, acc, al, bytes, S, out, hR, hal, hb => by
    obtain ⟨pend, hinv, rfl⟩ := hR
    have hz := bitsToNat_eq_zero_iff pend
    simp only [RefSig.go, decN, hinv.2]
    cases hall : pend.all (· == false) with
    | true =>
      rw [if_neg (by rw [hz.mpr hall]; simp)]
      exact ⟨by simp, ⟨pend, rfl, by rw [hinv.1]; exact hal, hall⟩, [], rfl⟩
    | false =>
      rw [if_pos (fun h => by rw [hz.mp h] at hall; cases hall)]
      exact ⟨pend, bytes, rfl, by rw [hinv.1]; exact hal, hall⟩
  | cnt + 1, acc, al, [], S, out, hR, hal, hb => by
    -- no byte left and fewer than 8 bits pending: the reference stops, and so does Algorithm 18 below 9 bits
    have hS : S.length < 9 := by rw [hR.length, List.length_nil]; omega
    simp only [RefSig.go, decN, Spec.decCoef_short 16 S hS, GRel]
  | cnt + 1, acc, al, b :: rest, S, out, hR, hal, hb => by
    have hrest := Spec.WF.tail hb
    -- push the byte, take the top 8 of the al + 8 pending bits: sign and low bits
    have hR' := hR.push (Nat.le_trans hal (by decide)) (Spec.WF.head hb)
    have hl := hR'.length
    obtain ⟨hw, hR''⟩ := hR'.pop 8 (Nat.le_add_left 8 al)
    obtain ⟨s, l7, S', h7, rfl⟩ := exists_cons_append S 7 (by omega)
    rw [Nat.add_sub_cancel, List.take_succ_cons, List.take_left' h7, show 2 ^ 8 = 256 from rfl] at hw
    rw [Nat.add_sub_cancel, List.drop_succ_cons, List.drop_left' h7] at hR''
    obtain ⟨hs, hlow, hlow127⟩ := top_byte s l7 h7
    rw [← hw] at hs hlow
    rw [RefSig.go, decN_succ, Spec.decCoef_cons 16 s l7 S' h7, hlow, ← bitsToNat_eq]
    simp only [hs]
    have hU := unary_reads _ hlow127 17 0 _ al rest S' hR'' (Nat.le_succ_of_le hal) hrest rfl (Nat.le_trans hlow127 (by decide))
    generalize RefSig.unary (bitsToNat l7) 17 0 ((acc * 256 + b) % 2 ^ 32) al rest = U at hU
    generalize Spec.readUnary 16 S' 0 = Rd at hU
    match U, Rd, hU with
    | none, none, _ => trivial
    | some (z, acc2, al2, rest2), some (k, R), hU =>
      obtain ⟨rfl, hal2, ⟨pend, rfl, hinv⟩, used, hused⟩ := hU
      simp only [Option.bind_some, ← negZero_iff, ← coefValue_eq]
      -- "-0" is refused by both; otherwise both go on with the same coefficient
      by_cases hz : Spec.negZero s z (bitsToNat l7) = true
      · rw [if_pos hz, if_pos hz]; trivial
      · rw [if_neg hz, if_neg hz, Option.bind_some, hused, ← List.cons_append]
        exact GRel_step _ _ _ _ _ _ (sig_go_reads cnt acc2 al2 rest2 _ _ ⟨pend, hinv, rfl⟩ hal2
          (Spec.WF.right (hused ▸ hrest)))

theorem sig_go_spec : ∀ (cnt acc al : Nat) (pend : List Bool) (bytes : List Nat) (out : List Int),
    Inv acc al pend → al ≤ 7 → (∀ b ∈ bytes, b < 256) →
    GRel bytes out (RefSig.go cnt acc al bytes out) (decN 16 cnt (pend ++ bitsOfBytes bytes)) :=
  fun cnt acc al pend bytes out hinv => sig_go_reads cnt acc al bytes _ out ⟨pend, hinv, rfl⟩

theorem decompressRef_two_pow (cap : Nat) (x : List Nat) (logn : Nat) :
    Spec.decompressRef cap x (2 ^ logn) = Spec.decBits cap (2 ^ logn) (bitsOfBytes x) :=
  if_neg (Nat.pos_iff_ne_zero.mp (Nat.pow_pos (by decide)))

theorem unpack_eq (x : List Nat) : Spec.unpack x = bitsOfBytes x := rfl

theorem bitsOfBytes_all_false {x : List Nat} (h : ∀ b ∈ x, b < 256) :
    (bitsOfBytes x).all (· == false) = true ↔ ∀ b ∈ x, b = 0 := by
  rw [← unpack_eq, Spec.unpack_all_false x h]; simp

theorem compDecode_rel (logn : Nat) (body : List Nat) (hb : ∀ b ∈ body, b < 256) :
    GRel body [] (RefSig.go (2 ^ logn) 0 0 body []) (decN 16 (2 ^ logn) (bitsOfBytes body)) :=
  sig_go_reads (2 ^ logn) 0 0 body _ [] (Reads.init body) (by decide) hb

theorem compDecode_some (logn : Nat) (body : List Nat) (hb : ∀ b ∈ body, b < 256) (x : List Int) (v : Nat)
    (h : RefSig.compDecode logn body = some (x, v)) :
    ∃ used rest pend, body = used ++ rest ∧ v = used.length ∧ pend.length ≤ 7 ∧ pend.all (· == false) = true ∧
      decN 16 (2 ^ logn) (bitsOfBytes body) = some (x, pend ++ bitsOfBytes rest) := by
  have hspec := compDecode_rel logn body hb
  obtain ⟨⟨xs, rest⟩, hg, hxv⟩ := Option.map_eq_some_iff.mp h
  cases hxv
  rw [hg] at hspec
  match hd : decN 16 (2 ^ logn) (bitsOfBytes body), hspec with
  | some (cs, R), ⟨hx, ⟨pend, hR, hp7, hp0⟩, used, hused⟩ =>
    exact ⟨used, rest, pend, hused, by rw [hused]; simp, hp7, hp0, by rw [hx, hR]; rfl⟩

theorem compDecode_of_decN (logn : Nat) (body : List Nat) (hb : ∀ b ∈ body, b < 256) (x : List Int) (R : List Bool)
    (hd : decN 16 (2 ^ logn) (bitsOfBytes body) = some (x, R)) (hR : R.all (· == false) = true) :
    ∃ used rest pend, body = used ++ rest ∧ RefSig.compDecode logn body = some (x, used.length) ∧
      pend.length ≤ 7 ∧ R = pend ++ bitsOfBytes rest := by
  have hspec := compDecode_rel logn body hb
  rw [hd] at hspec
  match hg : RefSig.go (2 ^ logn) 0 0 body [], hspec with
  | none, ⟨pend, rest, hR', _, hp⟩ =>
    rw [hR', List.all_append, Bool.and_eq_true] at hR
    rw [hR.1] at hp; cases hp
  | some (xs, rest), ⟨hx, ⟨pend, hR', hp7, _⟩, used, hused⟩ =>
    refine ⟨used, rest, pend, hused, ?_, hp7, hR'⟩
    rw [RefSig.compDecode, hg, hx, hused]
    simp

theorem compDecode_sound (logn : Nat) (body : List Nat) (hb : ∀ b ∈ body, b < 256) (x : List Int) (v : Nat)
    (h : RefSig.compDecode logn body = some (x, v)) :
    ∃ used rest, body = used ++ rest ∧ v = used.length ∧
      ((∀ b ∈ rest, b = 0) → Spec.decompressRef 16 body (2 ^ logn) = some x) := by
  obtain ⟨used, rest, pend, hbody, hv, _, hp0, hd⟩ := compDecode_some logn body hb x v h
  refine ⟨used, rest, hbody, hv, fun hz => ?_⟩
  rw [decompressRef_two_pow, decBits_eq_decN, hd, Option.bind_some]
  refine if_pos ?_
  rw [List.all_append, hp0, (bitsOfBytes_all_false fun b hb' => by rw [hz b hb']; decide).mpr hz]; rfl

/-- Algorithm 18 reads to the end of the string and wants zeros there: so every byte `comp_decode` leaves unread is zero -/
theorem compDecode_complete (logn : Nat) (body : List Nat) (hb : ∀ b ∈ body, b < 256) (x : List Int)
    (h : Spec.decompressRef 16 body (2 ^ logn) = some x) :
    ∃ used rest, body = used ++ rest ∧ RefSig.compDecode logn body = some (x, used.length) ∧ ∀ b ∈ rest, b = 0 := by
  rw [decompressRef_two_pow, decBits_eq_decN] at h
  obtain ⟨⟨cs, R⟩, hd, h⟩ := Option.bind_eq_some_iff.mp h
  obtain ⟨hR0, hx⟩ := Option.ite_none_right_eq_some.mp h
  cases hx
  obtain ⟨used, rest, pend, hbody, hc, _, rfl⟩ := compDecode_of_decN logn body hb cs R hd hR0
  rw [List.all_append, Bool.and_eq_true] at hR0
  exact ⟨used, rest, hbody, hc, (bitsOfBytes_all_false (Spec.WF.right (hbody ▸ hb))).mp hR0.2⟩

theorem compDecode_strip (logn : Nat) (body : List Nat) (hb : ∀ b ∈ body, b < 256) (x : List Int) (v : Nat)
    (h : RefSig.compDecode logn body = some (x, v)) : RefSig.sigDecode logn (body.take v) = some x := by
  obtain ⟨used, rest, pend, rfl, rfl, hp7, hp0, hd⟩ := compDecode_some logn body hb x v h
  -- the consumed bytes alone hold the encoding and fewer than 8 zero bits
  obtain ⟨h1, h2, h3⟩ := decN_eq_some_iff.mp hd
  rw [bitsOfBytes_append, ← List.append_assoc] at h2
  have hused : decN 16 (2 ^ logn) (bitsOfBytes used) = some (x, pend) :=
    decN_eq_some_iff.mpr ⟨h1, List.append_cancel_right h2, h3⟩
  -- so `comp_decode` accepts them, and leaves no byte: fewer than 8 bits are left
  obtain ⟨used', rest', pend', hbody, hc, _, hR⟩ :=
    compDecode_of_decN logn used (Spec.WF.left hb) x pend hused hp0
  obtain rfl : rest' = [] := by
    have := congrArg List.length hR
    rw [List.length_append, bitsOfBytes_length] at this
    exact List.eq_nil_of_length_eq_zero (by omega)
  rw [List.append_nil] at hbody
  rw [List.take_left' rfl, RefSig.sigDecode, hc, ← hbody]
  exact if_pos rfl

/-! ### the reference's cap (16 zeros, |x| ≤ 2047) against this library's (95 zeros, |x| ≤ 12159) -/

theorem decBits_cap_change (cap cap' n : Nat) (bs : List Bool) (x : List Int) (h : Spec.decBits cap n bs = some x)
    (hx : ∀ c ∈ x, c.natAbs / 128 = 0 ∨ c.natAbs / 128 < cap') : Spec.decBits cap' n bs = some x :=
  have ⟨hl, hk, _⟩ := Spec.decBits_eq_some_iff.mp h
  Spec.decBits_eq_some_iff.mpr ⟨hl, hk, hx⟩

theorem decBits_cap_mono : ∀ (n : Nat) (bs : List Bool) (x : List Int),
    Spec.decBits 16 n bs = some x → Spec.decBits 95 n bs = some x :=
  fun n bs x h => decBits_cap_change 16 95 n bs x h fun c hc => by
    have := (Spec.decBits_eq_some_iff.mp h).2.2 c hc; omega

theorem decBits_cap_small : ∀ (n : Nat) (bs : List Bool) (x : List Int),
    Spec.decBits 95 n bs = some x → (∀ c ∈ x, c.natAbs ≤ 2047) → Spec.decBits 16 n bs = some x :=
  fun n bs x h hx => decBits_cap_change 95 16 n bs x h fun c hc => by have := hx c hc; omega

end Falcon.RefEq

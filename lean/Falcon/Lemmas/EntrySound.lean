import Falcon.Lemmas.ZpProduct
import Falcon.Lemmas.KeygenSound
import Falcon.Model.KeygenWindow

/-!
  The 32-bit top level of `ntru_solve` (`ntru_solve_entrypoint` + `babai_reduce_i32`) is sound inside its exactness
  window.

  The 32-bit path multiplies through the Z_p transform (p = 1073754113) and is exact only while the true integer products
  stay within ±(p−1)/2 and the operands within (−p, p); that window is not a theorem for all seeds.  Here it is made an
  *executable predicate of the run* (`babaiI32Window`, `entryWindow`: the same floating-point quotients as the model of
  the loop, and for each round the decidable conditions "k within (−p, p), k⋆f and k⋆g within the window, the
  subtraction within i32"), and the theorems say: whenever the predicate holds — the driver evaluates it on every
  generated key — the modelled 32-bit code does not panic in either build mode and changes (F, G) by a multiple of (f, g)
  (`RingZ.ByMultiple`), hence preserves f⋆G − g⋆F exactly.
-/
namespace Falcon.Keygen
open Falcon Falcon.RingZ Falcon.FftFlt

theorem toZp'_eq : toZp' = Zp.toZp := rfl

theorem inWin_spec (l : List Int) (h : inWin l = true) : ∀ x ∈ l, -536877056 ≤ x ∧ x ≤ 536877056 := by
  intro x hx
  simpa using List.all_eq_true.mp h x hx

theorem inP_spec (l : List Int) (h : inP l = true) : ∀ x ∈ l, -1073754113 < x ∧ x < 1073754113 := by
  intro x hx
  simpa using List.all_eq_true.mp h x hx

theorem fits32_spec (l : List Int) (h : fits32 l = true) : ∀ x ∈ l, -2147483648 ≤ x ∧ x ≤ 2147483647 := by
  intro x hx
  simpa [fitsI32] using List.all_eq_true.mp h x hx

theorem mapM_new (chk : Bool) (k : List Int) (h : inP k = true) : k.mapM (Zp.new chk) = .ok (toZp' k) :=
  Zp.mapM_new chk k (inP_spec k h)

/-- the product through the Z_p transform as the 32-bit code forms it; the window is ±(p−1)/2 -/
theorem zp_mul (chk : Bool) (d : Nat) (hd : d ≤ 10) (hd1 : 1 ≤ d) (k f : List Int)
    (lk : k.length = 2 ^ d) (lf : f.length = 2 ^ d) (hw : ∀ x ∈ negacyc (2 ^ d) k f, -536877056 ≤ x ∧ x ≤ 536877056) :
    Zp.intt d (List.zipWith Zp.mul (Zp.ntt d (toZp' k)) (Zp.ntt d (toZp' f))) = .ok (toZp' (negacyc (2 ^ d) k f)) ∧
      (toZp' (negacyc (2 ^ d) k f)).mapM (Zp.balanced chk) = .ok (negacyc (2 ^ d) k f) := by
  rw [toZp'_eq]
  exact ⟨(Zp.ntt_mul d hd hd1 _ _ (by simp [Zp.toZp, lk]) (by simp [Zp.toZp, lf])).trans
      (congrArg Res.ok (Zp.negacyc_toZp _ k f)), Zp.mapM_balanced chk _ hw⟩

theorem mapM_sub (chk : Bool) (a b : List Int) (hf : fits32 (subL a b) = true) :
    (List.zip a b).mapM (fun (p : Int × Int) => arithS chk 32 (p.1 - p.2)) = .ok (subL a b) := by
  have e : subL a b = (List.zip a b).map fun p => p.1 - p.2 := (List.map_zip_eq_zipWith (f := fun p => p.1 - p.2)).symm
  rw [e] at hf ⊢
  refine Res.mapM_ok fun p hp => ?_
  have := fits32_spec _ hf _ (List.mem_map_of_mem hp)
  exact arithS32_ok chk this.1 (by omega)

theorem babaiI32Loop_multiple (chk : Bool) (d : Nat) (hd : d ≤ 10) (hd1 : 1 ≤ d) (size : Nat) {f g : List Int}
    (lf : f.length = 2 ^ d) (lg : g.length = 2 ^ d)
    {fStar gStar den : List C} (hfs : fStar.length = 2 ^ d) (hgs : gStar.length = 2 ^ d) (hden : den.length = 2 ^ d) :
    ∀ (fuel : Nat) (cF cG : List Int), cF.length = 2 ^ d → cG.length = 2 ^ d →
      babaiI32Window (2 ^ d) d size f g fStar gStar den fuel cF cG = true →
      ∃ okf a b, babaiI32Loop chk d size (Zp.ntt d (toZp' f)) (Zp.ntt d (toZp' g)) fStar gStar den fuel cF cG
          = .ok (okf, a, b) ∧ ByMultiple (2 ^ d) f g cF cG a b := by
  have hn : 0 < 2 ^ d := Nat.two_pow_pos d
  intro fuel
  induction fuel with
  | zero => exact fun cF cG h1 h2 _ => ⟨false, cF, cG, rfl, .refl hn lf lg h1 h2⟩
  | succ fuel ih =>
    intro cF cG h1 h2 hw
    rw [babaiI32Window] at hw
    rw [babaiI32Loop]
    simp only at hw ⊢
    by_cases hsz : max (bitsizeI32 (cF ++ cG)) 53 < size
    · rw [if_pos hsz]
      exact ⟨true, cF, cG, rfl, .refl hn lf lg h1 h2⟩
    rw [if_neg hsz] at hw ⊢
    -- of the quotient vector k only its length matters
    have hkl := quot_length (fun c => roundToI32 c.1) d (max (bitsizeI32 (cF ++ cG)) 53 - 53) h1 h2 hfs hgs hden
    generalize List.map (fun c : C => roundToI32 c.1) _ = k at hw hkl ⊢
    simp only [Bool.and_eq_true] at hw
    obtain ⟨hpk, hrest⟩ := hw
    rw [mapM_new chk k hpk]
    simp only [Res.bind_ok]
    by_cases hz : (Zp.ntt d (toZp' k)).all (· == 0) = true
    · rw [if_pos hz]
      exact ⟨true, cF, cG, rfl, .refl hn lf lg h1 h2⟩
    rw [if_neg hz] at hrest ⊢
    simp only [Bool.and_eq_true] at hrest
    obtain ⟨⟨⟨⟨w1, w2⟩, s1⟩, s2⟩, hnext⟩ := hrest
    -- both products and both subtractions are the exact ones
    obtain ⟨hr1, hb1⟩ := zp_mul chk d hd hd1 k f hkl lf (inWin_spec _ w1)
    obtain ⟨hr2, hb2⟩ := zp_mul chk d hd hd1 k g hkl lg (inWin_spec _ w2)
    have l1 := sub_mul_length lf h1
    have l2 := sub_mul_length lg h2
    simp only [hr1, hr2, hb1, hb2, Res.bind_ok, mapM_sub chk cF _ s1, mapM_sub chk cG _ s2]
    obtain ⟨okf, a, b, hrun, hm⟩ := ih _ _ (l1 _) (l2 _) hnext
    exact ⟨okf, a, b, hrun, .cons hn lf lg h1 h2 _ hm⟩

theorem babaiI32_multiple (chk : Bool) (d : Nat) (hd : d ≤ 10) (hd1 : 1 ≤ d) {f g cF cG : List Int}
    (lf : f.length = 2 ^ d) (lg : g.length = 2 ^ d) (h1 : cF.length = 2 ^ d) (h2 : cG.length = 2 ^ d)
    (hw : babaiI32W f g cF cG = true) :
    ∃ okf a b, babaiI32 chk f g cF cG = .ok (okf, a, b) ∧ ByMultiple (2 ^ d) f g cF cG a b := by
  unfold babaiI32W at hw
  simp only [lf, log2_pow, Bool.and_eq_true] at hw
  obtain ⟨⟨pf, pg⟩, hloop⟩ := hw
  unfold babaiI32
  simp only [lf, log2_pow, mapM_new chk f pf, mapM_new chk g pg, Res.bind_ok]
  obtain ⟨l1, l2, l3⟩ := star_lengths (max (bitsizeI32 (f ++ g)) 53 - 53) d lf lg
  exact babaiI32Loop_multiple chk d hd hd1 _ lf lg l1 l2 l3 _ _ _ h1 h2 hloop

theorem ntruSolveEntry_sound {R : Type} [CommRing R] (chk : Bool) (j : Nat) (hj : j + 1 ≤ 10) (f g : List Int)
    (lf : f.length = 2 ^ (j + 1)) (lg : g.length = 2 ^ (j + 1)) (hw : entryWindow f g = true) :
    ∃ r, ntruSolveEntry chk f g = .ok r ∧ ∀ cF cG, r = some (cF, cG) → Solves R (2 ^ (j + 1)) f g cF cG := by
  have hpow : 2 ^ (j + 1) = 2 * 2 ^ j := Nat.pow_succ'
  have hm : 0 < 2 ^ j := Nat.two_pow_pos j
  have hdm : j + 1 - 1 = j := Nat.add_sub_cancel j 1
  have hj1 : 1 ≤ j + 1 := Nat.le_add_left 1 j
  unfold entryWindow at hw
  unfold ntruSolveEntry
  simp only [lf, log2_pow, hdm] at hw ⊢
  generalize hrec : ntruSolveBig j _ _ = r at hw ⊢
  obtain _ | ⟨cF', cG'⟩ := r
  · exact ⟨none, rfl, fun _ _ h => nomatch h⟩
  simp only at hw ⊢
  by_cases hfit : (!(cF'.all fitsI32 && cG'.all fitsI32)) = true
  · rw [if_pos hfit]
    exact ⟨none, rfl, fun _ _ h => nomatch h⟩
  rw [if_neg hfit] at hw ⊢
  simp only [Bool.and_eq_true] at hw
  obtain ⟨⟨⟨⟨⟨⟨p1, p2⟩, p3⟩, p4⟩, w1⟩, w2⟩, wb⟩ := hw
  rw [fieldNormImpl_eq hpow hm f lf, fieldNormImpl_eq hpow hm g lg] at hrec
  have hr := ntruSolveBig_sound (R := R) j _ _ cF' cG' (fieldNorm_length hpow f lf) (fieldNorm_length hpow g lg) hrec
  have lifted := hr.lift hpow hm lf lg
  simp only [liftStep] at lifted
  -- the two lifting products through Z_p are the exact ones
  obtain ⟨hr1, hb1⟩ := zp_mul chk (j + 1) hj hj1 (lift cF') (adjoint g)
    (by rw [lift_length, hr.lenF, hpow]) (by rw [adjoint_length, lg]) (inWin_spec _ w1)
  obtain ⟨hr2, hb2⟩ := zp_mul chk (j + 1) hj hj1 (lift cG') (adjoint f)
    (by rw [lift_length, hr.lenG, hpow]) (by rw [adjoint_length, lf]) (inWin_spec _ w2)
  obtain ⟨okf, a, b, hrun, hmul⟩ := babaiI32_multiple chk (j + 1) hj hj1 lf lg lifted.lenF lifted.lenG wb
  simp only [mapM_new chk _ p1, mapM_new chk _ p2, mapM_new chk _ p3, mapM_new chk _ p4, Res.bind_ok, hr1, hr2, hb1, hb2]
  refine ⟨if okf then some (a, b) else none, by rw [hrun]; rfl, fun cF cG hres => ?_⟩
  cases okf with
  | false => simp at hres
  | true =>
    simp only [if_true, Option.some.injEq, Prod.mk.injEq] at hres
    obtain ⟨rfl, rfl⟩ := hres
    exact lifted.of_multiple lf lg hmul

end Falcon.Keygen

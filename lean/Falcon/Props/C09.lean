import Falcon.Lemmas.SamplerCore

/-!
# C09 — the integer Gaussian sampler: integer building blocks

Theorems about the integer cores of samplerz.rs (the parts that are pure integer arithmetic), for all inputs.
The floating-point glue (`floor`, `x / ln 2`, `2^63·x`) and the closeness of the output law to the discrete
Gaussian are not decided here (see DESIGN.md §10); the glue is compared bit-for-bit with the Rust code on
every run, the specification's blocks are re-implemented independently in the harness.
-/
namespace Falcon.Props.C09
open Falcon Falcon.Sampler

/-- the table in samplerz.rs is the specification's RCDT (Table 3.1) -/
theorem rcdt_is_spec : Gen.rcdt = [
    3024686241123004913666, 1564742784480091954050, 636254429462080897535, 199560484645026482916,
    47667343854657281903, 8595902006365044063, 1163297957344668388, 117656387352093658, 8867391802663976,
    496969357462633, 20680885154299, 638331848991, 14602316184, 247426747, 3104126, 28824, 198, 1] := rfl

/-- the constants of the polynomial approximation are those of the specification (FACCT) -/
theorem expC_is_spec : Gen.expC = [
    0x00000004741183A3, 0x00000036548CFC06, 0x0000024FDCBF140A, 0x0000171D939DE045, 0x0000D00CF58F6F84,
    0x000680681CF796E3, 0x002D82D8305B0FEA, 0x011111110E066FD0, 0x0555555555070F00, 0x155555555581FF00,
    0x400000000002B400, 0x7FFFFFFFFFFF4800, 0x8000000000000000] := rfl

/-- **BaseSampler, exact output law**: the result exceeds k exactly when u < RCDT[k]; hence
    `#{u < 2^72 : base(u) > k} = RCDT[k]`, the cumulative distribution the specification tabulates -/
theorem base_sampler_gt_iff (u k : Nat) (hk : k < 18) :
    baseSamplerU u > k ↔ u < Gen.rcdt.getD k 0 :=
  count_gt_iff u Gen.rcdt rcdt_decreasing k

/-- **the exact output law as a count**: among the 2^72 equally likely values of the nine random bytes, exactly RCDT[k]
    give a result above k (k = 0 … 17) — the cumulative distribution the specification tabulates, so under uniform bytes
    P[base > k] = RCDT[k] / 2^72 exactly -/
theorem base_sampler_law (k : Nat) (hk : k < 18) :
    ((Finset.range (2 ^ 72)).filter (fun u => baseSamplerU u > k)).card = Gen.rcdt.getD k 0 :=
  card_filter_range_eq (lo := 0) (hi := Gen.rcdt.getD k 0) (rcdt_le_two72 k hk)
    fun u _ => by simpa using base_sampler_gt_iff u k hk

/-- … and the probabilities of the individual values: #{u : base(u) = k + 1} = RCDT[k] − RCDT[k+1] for k = 0 … 16 -/
theorem base_sampler_point_law (k : Nat) (hk : k + 1 < 18) :
    ((Finset.range (2 ^ 72)).filter (fun u => baseSamplerU u = k + 1)).card = Gen.rcdt.getD k 0 - Gen.rcdt.getD (k + 1) 0 :=
  card_filter_range_eq (rcdt_le_two72 k (by omega)) fun u _ => by
    have a := base_sampler_gt_iff u k (by omega)
    have b := base_sampler_gt_iff u (k + 1) hk
    omega

/-- the result is in {0, …, 18} -/
theorem base_sampler_range (u : Nat) : baseSamplerU u ≤ 18 := by
  unfold baseSamplerU
  exact Nat.le_trans (List.length_filter_le _ _) (by decide)

/-- **BerExp comparison never indexes past its 7 bytes** (the former 2^-56 panic), for every threshold -/
theorem ber_loop_total (z : Nat) (bytes : List Nat) (h : bytes.length = 7) : ∃ w, berLoop z berShifts bytes = .ok w :=
  berLoop_total z _ _ (by rw [h]; decide)

/-- … and on a tie of all 7 bytes the result is "not below" (that the loop is the lexicographic comparison is
    `ber_loop_is_comparison`) -/
theorem ber_loop_tie (z : Nat) : berLoop z [56, 48, 40, 32, 24, 16, 8]
    [z / 2 ^ 56 % 256, z / 2 ^ 48 % 256, z / 2 ^ 40 % 256, z / 2 ^ 32 % 256, z / 2 ^ 24 % 256, z / 2 ^ 16 % 256, z / 2 ^ 8 % 256]
    = .ok 0 :=
  berLoop_self z _

/-- **BerExp's lazy comparison is one integer comparison**: reading the 7 random bytes as a big-endian 56-bit number B,
    the loop reports "below" exactly when B < ⌊z / 2^8⌋ mod 2^56 (bits 8 … 63 of the 64-bit threshold) — for every z and
    every 7 bytes.  Under uniform bytes the acceptance probability is therefore exactly (⌊z/256⌋ mod 2^56) / 2^56. -/
theorem ber_loop_is_comparison (z b0 b1 b2 b3 b4 b5 b6 : Nat)
    (h0 : b0 < 256) (h1 : b1 < 256) (h2 : b2 < 256) (h3 : b3 < 256) (h4 : b4 < 256) (h5 : b5 < 256) (h6 : b6 < 256) :
    ∃ w, berLoop z [56, 48, 40, 32, 24, 16, 8] [b0, b1, b2, b3, b4, b5, b6] = .ok w ∧
      (w < 0 ↔ b0 * 2 ^ 48 + b1 * 2 ^ 40 + b2 * 2 ^ 32 + b3 * 2 ^ 24 + b4 * 2 ^ 16 + b5 * 2 ^ 8 + b6 < z / 2 ^ 8 % 2 ^ 56) := by
  obtain ⟨w, hw, hiff⟩ := berLoop_neg_iff z [56, 48, 40, 32, 24, 16, 8] [b0, b1, b2, b3, b4, b5, b6] rfl
    (by simp only [List.forall_mem_cons]; exact ⟨h0, h1, h2, h3, h4, h5, h6, nofun⟩)
  refine ⟨w, hw, hiff.trans ?_⟩
  -- both sides written out and the powers evaluated
  rw [beBytes_threshold]
  simp only [beBytes, List.length_cons, List.length_nil, Nat.reduceAdd, Nat.reducePow, Nat.mul_one, Nat.add_zero,
    Nat.add_assoc]

/-- the 7 bytes of a 56-bit number, most significant first -/
def bytes7 (B : Nat) : List Nat :=
  [B / 2 ^ 48 % 256, B / 2 ^ 40 % 256, B / 2 ^ 32 % 256, B / 2 ^ 24 % 256, B / 2 ^ 16 % 256, B / 2 ^ 8 % 256, B % 256]

/-- "the comparison loop reports below" -/
def berBelow (z B : Nat) : Prop := ∃ w, berLoop z [56, 48, 40, 32, 24, 16, 8] (bytes7 B) = .ok w ∧ w < 0

open Classical in
/-- **BerExp's acceptance law as a count**: of the 2^56 equally likely values of the 7 random bytes exactly
    ⌊z / 2^8⌋ mod 2^56 make the comparison loop report "below" -/
theorem ber_loop_count (z : Nat) :
    ((Finset.range (2 ^ 56)).filter (fun B => berBelow z B)).card = z / 2 ^ 8 % 2 ^ 56 :=
  card_filter_range_eq (lo := 0) (hi := z / 2 ^ 8 % 2 ^ 56) (Nat.le_of_lt (Nat.mod_lt _ (by decide))) fun B hB => by
    have hlt : ∀ b ∈ bytes7 B, b < 256 := by
      simp only [bytes7, List.forall_mem_cons]
      refine ⟨?_, ?_, ?_, ?_, ?_, ?_, ?_, nofun⟩ <;> exact Nat.mod_lt _ (by decide)
    obtain ⟨w, hw, hiff⟩ := berLoop_neg_iff z [56, 48, 40, 32, 24, 16, 8] (bytes7 B) rfl hlt
    have hB7 : beBytes (bytes7 B) = B % 2 ^ 56 := by
      simpa [bytes7, List.range, List.range.loop] using beBytes_shifts B 0 7
    rw [hB7, beBytes_threshold, Nat.mod_eq_of_lt hB] at hiff
    simp [berBelow, hw, hiff]

/-- **the integer part of BerExp, exactly**: with e = ApproxExp's value (≥ 1), the shift s and 7 random bytes read as the
    big-endian number B, the result is `true` exactly when B < ⌊((2e − 1) >> min(s, 63)) / 2^8⌋ mod 2^56 — in both build
    modes; so under uniform bytes the acceptance probability is that threshold over 2^56 -/
theorem ber_exp_core_law (chk : Bool) (e s b0 b1 b2 b3 b4 b5 b6 : Nat) (he : 1 ≤ e)
    (h0 : b0 < 256) (h1 : b1 < 256) (h2 : b2 < 256) (h3 : b3 < 256) (h4 : b4 < 256) (h5 : b5 < 256) (h6 : b6 < 256) :
    berExpCore chk e s [b0, b1, b2, b3, b4, b5, b6] =
      .ok (decide (b0 * 2 ^ 48 + b1 * 2 ^ 40 + b2 * 2 ^ 32 + b3 * 2 ^ 24 + b4 * 2 ^ 16 + b5 * 2 ^ 8 + b6 <
        (e * 2 - 1) / 2 ^ min s 63 % 2 ^ 64 / 2 ^ 8 % 2 ^ 56)) := by
  obtain ⟨w, hw, hiff⟩ := ber_loop_is_comparison ((e * 2 - 1) / 2 ^ min s 63 % 2 ^ 64) b0 b1 b2 b3 b4 b5 b6 h0 h1 h2 h3 h4 h5 h6
  rw [berExpCore_eq chk he, berShifts_eq, hw]
  exact congrArg Res.ok (decide_eq_decide.mpr hiff)

/-- the whole integer core of ApproxExp is total on z < 2^63 (x in [0, 1)), in both build modes -/
theorem approx_exp_core_total (chk : Bool) (z zc : Nat) (hz : z < 2 ^ 63) : ∃ r, approxExpCore chk z zc = .ok r := by
  obtain ⟨y, hy, _⟩ := approxExpCore_eq chk hz zc
  exact ⟨_, hy⟩

/-- **ApproxExp is bounded away from zero**: for every z < 2^63 (x in [0, 1)) and every scaling zc = ⌊2^63·ccs⌋ with
    ccs in [1/2, 1] (ccs = σ_min/σ' ≥ σ_min/σ_max ≈ 0.70), the integer core returns a value in [23552, 2^63], in both
    build modes: the last Horner step subtracts at most 0x7FFFFFFFFFFF4800 from 2^63 -/
theorem approx_exp_core_range (chk : Bool) (z zc : Nat) (hz : z < 2 ^ 63) (hlo : 2 ^ 62 ≤ zc) (hhi : zc ≤ 2 ^ 63) :
    ∃ r, approxExpCore chk z zc = .ok r ∧ 23552 ≤ r ∧ r ≤ 2 ^ 63 := by
  obtain ⟨y, hy, hylo, hyhi⟩ := approxExpCore_eq chk hz zc
  have h3 : zc * y / 2 ^ 63 ≤ 2 ^ 63 := Nat.div_le_of_le_mul (Nat.mul_le_mul hhi hyhi)
  have h4 : 23552 ≤ zc * y / 2 ^ 63 := (Nat.le_div_iff_mul_le (by decide)).mpr
    (calc 23552 * 2 ^ 63 = 2 ^ 62 * 47104 := by decide
      _ ≤ zc * y := Nat.mul_le_mul hlo hylo)
  exact ⟨zc * y / 2 ^ 63, by rw [hy, Nat.mod_eq_of_lt (by omega)], h4, h3⟩

/-- **the integer part of BerExp is total**: for every value e ≥ 1 that ApproxExp can return (see
    `approx_exp_core_range`: e ≥ 23552), every shift s (clamped to 63) and every 7 random bytes, in both build modes —
    `2e − 1` does not underflow and the lazy comparison stays inside its bytes -/
theorem ber_exp_core_total (chk : Bool) (e s : Nat) (bytes : List Nat) (he : 1 ≤ e) (hb : bytes.length = 7) :
    ∃ b, berExpCore chk e s bytes = .ok b := by
  obtain ⟨w, hw⟩ := ber_loop_total ((e * 2 - 1) / 2 ^ min s 63 % 2 ^ 64) bytes hb
  exact ⟨_, by rw [berExpCore_eq chk he, hw]; rfl⟩

/-- ApproxExp followed by the BerExp comparison: total for every x in [0, 1) (as 63-bit fixed point), every ccs in
    [1/2, 1], every shift and every 7 bytes -/
theorem approx_then_ber_total (chk : Bool) (z zc s : Nat) (bytes : List Nat) (hz : z < 2 ^ 63) (hlo : 2 ^ 62 ≤ zc)
    (hhi : zc ≤ 2 ^ 63) (hb : bytes.length = 7) :
    ∃ b, (approxExpCore chk z zc >>= fun e => berExpCore chk e s bytes) = .ok b := by
  obtain ⟨r, hr, h1, _⟩ := approx_exp_core_range chk z zc hz hlo hhi
  rw [hr]
  exact ber_exp_core_total chk r s bytes (by omega) hb

/-- **the last addition of `sampler_z`** (`z + floor(mu) as i16` in i16): for every base-sampler value z0 ≤ 18 and sign
    bit b, no overflow in either build mode whenever the centre's integer part is within [−32750, 32748].  Outside that
    window the i16 result type cannot hold the sample (known finding F7: `mu = 40000` saturates, `−40000` overflows). -/
theorem sampler_z_final_add_ok (chk : Bool) (z0 b : Nat) (s16 : Int) (hz0 : z0 ≤ 18) (hb : b ≤ 1)
    (h0 : -32750 ≤ s16) (h1 : s16 ≤ 32748) :
    arithS chk 16 (((b : Int) + (2 * (b : Int) - 1) * (z0 : Int)) + s16) = .ok (((b : Int) + (2 * (b : Int) - 1) * (z0 : Int)) + s16) := by
  rcases (by omega : b = 0 ∨ b = 1) with rfl | rfl <;> exact arithS16_ok chk (by omega) (by omega)

/-- … and outside it the addition traps: at the saturated centre 32767 the sample 19 does not fit (F7) -/
theorem sampler_z_final_add_overflows : arithS true 16 (((1 : Int) + (2 * 1 - 1) * 18) + 32767) = .panic .overflow := by
  decide

/-! ### non-vacuity -/
example : baseSamplerU 0 = 18 ∧ baseSamplerU 1 = 17 ∧ baseSamplerU 3024686241123004913666 = 0 ∧
    baseSamplerU 3024686241123004913665 = 1 := by decide
example : approxExpCore true 0 (2 ^ 63) = .ok (2 ^ 63) := by decide

end Falcon.Props.C09

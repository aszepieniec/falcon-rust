import Falcon.Lemmas.ZqLift
import Falcon.Lemmas.BatchInv
import Falcon.Lemmas.TowerAlg
import Falcon.Model.KeygenSkel

/-!
  The public key the code derives is g / f, `h = intt(ntt g ⊙ batch_inverse(ntt f))`, and what a secret key's decoder
  recomputes for G is G.

  * `public_key_is_g_over_f`: slot by slot (g_i·f_i⁻¹)·f_i = g_i, hence h ⋆ f = g;
  * `second_key_relation`: the NTRU equation over ℤ, read at each root of Xⁿ+1 in Z_q (where q = 0), is f·G = g·F there,
    so h ⋆ f = g gives h ⋆ F = G (`derived_key_relations`); through `ntt_mul` this is `recomputed_G`: what the decoder
    recomputes, intt(ntt g ⊙ ntt f⁻¹ ⊙ ntt F) = intt(ntt h ⊙ ntt F), is G.
-/

namespace Falcon.Ntt
open Falcon Falcon.Props

theorem negacyc_of_hadamard (d : Nat) (hd : d ≤ 10) (h f g : List Nat)
    (hlh : h.length = 2 ^ d) (hlf : f.length = 2 ^ d) (hlg : g.length = 2 ^ d) (hcg : ∀ x ∈ g, x < 12289)
    (hrel : hadamard (ntt d h) (ntt d f) = ntt d g) : negacyc (2 ^ d) h f = g := by
  have h1 := ntt_mul d hd h f hlh hlf
  rw [hrel, intt_ntt d hd g hlg hcg] at h1
  exact (Res.ok.inj h1).symm

theorem cast_map_invN (l : List Nat) : (l.map C12.invN).map (Nat.cast : Nat → Fq) = (l.map Nat.cast).map (·⁻¹) := by
  rw [List.map_map, List.map_map]
  exact List.map_congr_left fun a _ => Batch.cast_invN a

theorem cast_ne_zero {l : List Nat} (hl : ∀ x ∈ l, x < 12289) (h : ∀ x ∈ l, x ≠ 0) :
    ∀ y ∈ l.map (Nat.cast : Nat → Fq), y ≠ 0 := by
  intro y hy
  obtain ⟨x, hx, rfl⟩ := List.mem_map.mp hy
  exact (Batch.cast_ne_zero_iff x (hl x hx)).mp (h x hx)

theorem zip_div_mul : ∀ (G Fv : List Fq), G.length = Fv.length → (∀ y ∈ Fv, y ≠ 0) →
    List.zipWith (· * ·) (List.zipWith (· * ·) G (Fv.map (·⁻¹))) Fv = G
  | [], _, _, _ => by simp
  | a :: G, [], hl, _ => by simp at hl
  | a :: G, b :: Fv, hl, hne => by
    have hb0 : b ≠ 0 := hne b (List.mem_cons_self ..)
    simp only [List.map_cons, List.zipWith_cons_cons, List.cons.injEq]
    exact ⟨inv_mul_cancel_right₀ hb0 a,
      zip_div_mul G Fv (by simpa using hl) fun y hy => hne y (List.mem_cons_of_mem _ hy)⟩

theorem public_key_is_g_over_f (chk : Bool) (d : Nat) (hd : d ≤ 10) (f g : List Nat)
    (lf : f.length = 2 ^ d) (lg : g.length = 2 ^ d) (cf : ∀ x ∈ f, x < 12289) (cg : ∀ x ∈ g, x < 12289)
    (hinv : ∀ x ∈ ntt d f, x ≠ 0) :
    ∃ finv h, Zq.batchInv chk (ntt d f) = .ok finv ∧ intt d (hadamard (ntt d g) finv) = .ok h ∧
      h.length = 2 ^ d ∧ (∀ x ∈ h, x < 12289) ∧ negacyc (2 ^ d) h f = g ∧ ntt d h = hadamard (ntt d g) finv := by
  have nf := ntt_lt d f cf
  have lnf : (ntt d f).length = 2 ^ d := ntt_length d f lf
  have lng : (ntt d g).length = 2 ^ d := ntt_length d g lg
  have lw : (hadamard (ntt d g) ((ntt d f).map C12.invN)).length = 2 ^ d :=
    hadamard_length lng ((List.length_map _).trans lnf)
  obtain ⟨h, hh, hnt, lh, ch⟩ := ntt_intt d hd _ lw (hadamard_lt _ _)
  refine ⟨_, h, Batch.batchInv_eq chk (ntt d f) nf, hh, lh, ch, ?_, hnt⟩
  -- ntt h ⊙ ntt f = ntt g slot by slot: (g_i * f_i⁻¹) * f_i = g_i because f_i ≠ 0
  apply negacyc_of_hadamard d hd h f g lh lf lg cg
  rw [hnt]
  apply ModNtt.map_cast_inj 12289 (hadamard_lt _ _) (ntt_lt d g cg)
  simp only [hadamard_eq, ModNtt.cast_hadamard, cast_map_invN]
  exact zip_div_mul _ _ (by simp [lnf, lng]) (cast_ne_zero nf hinv)

/-- at each root ρ of the transform, where q = 0: f(ρ)·(h(ρ)·F(ρ) − G(ρ)) = g(ρ)·F(ρ) − f(ρ)·G(ρ) = 0, and f(ρ) is a
    slot of ntt f -/
theorem second_key_relation (d : Nat) (hd : d ≤ 10) {f g cF cG : List Int} {h : List Nat}
    (lf : f.length = 2 ^ d) (lF : cF.length = 2 ^ d) (lG : cG.length = 2 ^ d)
    (hntru : RingZ.ntruLhs (2 ^ d) f g cF cG = (12289 : Int) :: List.replicate (2 ^ d - 1) 0)
    (hinv : ∀ x ∈ ntt d (toZq f), x ≠ 0) (hrel : negacyc (2 ^ d) h (toZq f) = toZq g) :
    negacyc (2 ^ d) h (toZq cF) = toZq cG := by
  refine eq_of_eval_eq d hd _ _ (negacyc_length _ h _ (toZq_length lF)) (toZq_length lG)
    (negacyc_lt _ h _) (toZq_lt cG) fun ρ hρ => ?_
  have hp := NttG.root_pow (tables.mono hd).sq hρ
  rw [evalL_cast_negacyc h _ (toZq_length lF) ρ hp, evalL_toZq, evalL_toZq]
  have hq := (RingZ.Solves.of_exact (R := Fq) lF lG hntru).eq ρ hp
  rw [show (12289 : Fq) = 0 from ZMod.natCast_self 12289] at hq
  have hne : RingZ.ev f ρ ≠ 0 := by
    rw [← evalL_toZq]
    exact cast_ne_zero (ntt_lt d _ (toZq_lt f)) hinv _ (ntt_as_eval d hd _ (toZq_length lf) ▸ List.mem_map_of_mem hρ)
  refine mul_left_cancel₀ hne ?_
  linear_combination (RingZ.ev cF ρ) * ev_of_negacyc lf hrel ρ hp - hq

theorem derived_key_relations (chk : Bool) (d : Nat) (hd : d ≤ 10) (f g cF cG : List Int)
    (lf : f.length = 2 ^ d) (lg : g.length = 2 ^ d) (lF : cF.length = 2 ^ d) (lG : cG.length = 2 ^ d)
    (hntru : RingZ.ntruLhs (2 ^ d) f g cF cG = (12289 : Int) :: List.replicate (2 ^ d - 1) 0)
    (hinv : ∀ x ∈ ntt d (toZq f), x ≠ 0) :
    ∃ finv h, Zq.batchInv chk (ntt d (toZq f)) = .ok finv ∧ intt d (hadamard (ntt d (toZq g)) finv) = .ok h ∧
      h.length = 2 ^ d ∧ (∀ x ∈ h, x < 12289) ∧
      negacyc (2 ^ d) h (toZq f) = toZq g ∧ negacyc (2 ^ d) h (toZq cF) = toZq cG := by
  obtain ⟨finv, h, hb, hh, lh, ch, hrel, _⟩ := public_key_is_g_over_f chk d hd (toZq f) (toZq g)
    (toZq_length lf) (toZq_length lg) (toZq_lt f) (toZq_lt g) hinv
  exact ⟨finv, h, hb, hh, lh, ch, hrel, second_key_relation d hd lf lF lG hntru hinv hrel⟩

/-- what `SecretKey::from_bytes` recomputes for G -/
theorem recomputed_G (chk : Bool) (d : Nat) (hd : d ≤ 10) (f g cF cG : List Int)
    (lf : f.length = 2 ^ d) (lg : g.length = 2 ^ d) (lF : cF.length = 2 ^ d) (lG : cG.length = 2 ^ d)
    (hntru : RingZ.ntruLhs (2 ^ d) f g cF cG = (12289 : Int) :: List.replicate (2 ^ d - 1) 0)
    (hinv : ∀ x ∈ ntt d (toZq f), x ≠ 0) :
    ∃ finv, Zq.batchInv chk (ntt d (toZq f)) = .ok finv ∧
      intt d (hadamard (hadamard (ntt d (toZq g)) finv) (ntt d (toZq cF))) = .ok (toZq cG) := by
  obtain ⟨finv, h, hb, _, lh, _, hrel, hnt⟩ := public_key_is_g_over_f chk d hd (toZq f) (toZq g)
    (toZq_length lf) (toZq_length lg) (toZq_lt f) (toZq_lt g) hinv
  refine ⟨finv, hb, ?_⟩
  rw [← hnt, ntt_mul d hd h (toZq cF) lh (toZq_length lF), second_key_relation d hd lf lF lG hntru hinv hrel]

/-- the check also tests that no slot of ntt f is zero and that h is canonical -/
theorem keyCheck_ok {n : Nat} {f g cF cG : List Int} {h : List Nat} (hk : KeygenSkel.keyCheck n f g cF cG h = "ok") :
    RingZ.ntruLhs n f g cF cG = (12289 : Int) :: List.replicate (n - 1) 0 ∧
    hadamard (ntt (Ntt.log2 n) h) (ntt (Ntt.log2 n) (toZq f)) = ntt (Ntt.log2 n) (toZq g) ∧
    hadamard (ntt (Ntt.log2 n) h) (ntt (Ntt.log2 n) (toZq cF)) = ntt (Ntt.log2 n) (toZq cG) := by
  -- the check is a chain of tests, each returning its own error code
  rcases ite_eq_iff.mp hk with ⟨-, hk⟩ | ⟨h1, hk⟩
  · exact absurd hk (by decide)
  rcases ite_eq_iff.mp hk with ⟨-, hk⟩ | ⟨-, hk⟩
  · exact absurd hk (by decide)
  rcases ite_eq_iff.mp hk with ⟨-, hk⟩ | ⟨h3, hk⟩
  · exact absurd hk (by decide)
  rcases ite_eq_iff.mp hk with ⟨-, hk⟩ | ⟨h4, -⟩
  · exact absurd hk (by decide)
  exact ⟨not_not.mp h1, not_not.mp h3, not_not.mp h4⟩

end Falcon.Ntt

import Falcon.Lemmas.NttZMod
import Falcon.Lemmas.NttBreadthFirst

/-!
# C11 — NTT-based multiplication in Z_q[X]/(X^n+1) is exact

For every length n = 2^d ≤ 1024 and all polynomials with canonical coefficients, on the model
`Falcon.Ntt` of `Polynomial<Felt>::fft/ifft/hadamard_mul` with the tables regenerated from fast_fft.rs: what the
tables are (bit-reversed powers of ψ, pointwise inverses, the n⁻¹ constants), the round trip and the multiplication; and the
depth-first network of the model returns what the breadth-first loop nest `FftFlt.nttBF` / `inttBF` returns, stage after
stage over the whole array as cyclotomic_fourier.rs runs (`ntt_is_the_breadth_first_loop_nest`, `intt_is_the_breadth_first_loop_nest`).
-/
namespace Falcon.Props.C11
open Falcon Falcon.Ntt

/-- the forward table is the bit-reversed powers of ψ = table[512], the inverse table those of ψ⁻¹,
    ψ^1024 = −1 (so ψ has order exactly 2048) and ψ·ψ⁻¹ = 1 — the property's sentence about the tables -/
theorem tables_are_bitreversed_powers :
    (∀ i, i < 1024 → T i = psi ^ bitrev10 i % 12289 ∧ TI i = psiInv ^ bitrev10 i % 12289) ∧
    psi ^ 1024 % 12289 = 12288 ∧ psi * psiInv % 12289 = 1 := by
  -- here `^` on ℕ is Mathlib's `Monoid.npow`, in `powersOK_spec` it is core's: the same by `rfl` for variables, while against
  -- the closed term `psi ^ 1024` the unifier would try to evaluate both sides
  have e : ∀ p n : Nat, @HPow.hPow Nat Nat Nat (@instHPow Nat Nat instPowNat) p n = p ^ n := fun _ _ => rfl
  exact ⟨powersOK_spec.1, e psi 1024 ▸ powersOK_spec.2.1, powersOK_spec.2.2⟩

/-- every table entry is canonical and the inverse table is the pointwise inverse -/
theorem tables_inverse (i : Nat) (hi : i < 1024) : T i * TI i % 12289 = 1 ∧ T i < 12289 ∧ TI i < 12289 := by
  rw [T_eq, TI_eq]; exact ModNtt.tablesOK_inv tablesOK_true i hi

/-- the stored n⁻¹ constants are correct and each length selects its own constant -/
theorem ninv_correct : ∀ d, d ≤ 10 → ∃ v, ninv (2 ^ d) = some v ∧ 2 ^ d * v % 12289 = 1 ∧ v < 12289 :=
  ninv_spec

/-- **round trip**: the inverse transform of the forward transform is the identity -/
theorem intt_ntt (d : Nat) (hd : d ≤ 10) (a : List Nat) (hl : a.length = 2 ^ d) (hc : ∀ x ∈ a, x < 12289) :
    intt d (ntt d a) = .ok a :=
  Ntt.intt_ntt d hd a hl hc

/-- **multiplication**: the inverse transform of the pointwise product of the transforms is the
    negacyclic product a ⋆ b in Z_q[X]/(X^n+1) -/
theorem ntt_mul_exact (d : Nat) (hd : d ≤ 10) (a b : List Nat)
    (hla : a.length = 2 ^ d) (hlb : b.length = 2 ^ d) :
    intt d (hadamard (ntt d a) (ntt d b)) = .ok (negacyc (2 ^ d) a b) :=
  Ntt.ntt_mul d hd a b hla hlb

/-- **the model's network is the Rust loop nest**: the forward transform as cyclotomic_fourier.rs runs it — breadth first,
    the stage with m blocks using `psi_rev[m + i]` for block i — returns exactly what the depth-first network of the model
    returns (the same modular operations on the same operands; no algebraic law is used), for every n = 2^d -/
theorem ntt_is_the_breadth_first_loop_nest (d : Nat) (a : List Nat) (ha : a.length = 2 ^ d) :
    ntt d a = FftFlt.nttBF zqOps T d a := by
  rw [FftFlt.nttBF_eq_nttRecO zqOps T d a ha, ntt, nttRec_eq_O]

/-- … and so are the butterflies of the inverse transform (merging stages, innermost first, `psi_inv_rev[h + i]`) -/
theorem intt_is_the_breadth_first_loop_nest (d : Nat) (a : List Nat) (ha : a.length = 2 ^ d) :
    inttRec d 1 a = FftFlt.inttBF zqOps TI d a := by
  rw [FftFlt.inttBF_eq_inttRecO zqOps TI d a ha, inttRec_eq_O]

/-- the multiplication `⋆` used above is multiplication in Z_q[X]/(X^n+1): X·(p₀,…,p_{n−1}) = (−p_{n−1}, p₀, …) -/
example : negacyc 4 [0, 1, 0, 0] [1, 2, 3, 4] = [12285, 1, 2, 3] := by decide
/-- non-vacuity: a concrete instance of both theorems' hypotheses and conclusions -/
example : intt 2 (ntt 2 [1, 2, 3, 4]) = .ok [1, 2, 3, 4] := by decide
example : intt 1 (hadamard (ntt 1 [3, 5]) (ntt 1 [7, 11])) = .ok (negacyc 2 [3, 5] [7, 11]) := by decide

end Falcon.Props.C11

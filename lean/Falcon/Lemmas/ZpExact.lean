import Falcon.Model.Zp

/-! `U32Field::new` and `balanced_value` on the model of u32_field.rs: exact, without overflow in either build mode,
    on the ranges the 32-bit Babai reduction uses.  Core Lean only. -/
namespace Falcon.Zp
open Falcon

theorem pval : (p : Int) = 1073754113 := by decide

theorem new_exact (chk : Bool) (v : Int) (h0 : -1073754113 < v) (h1 : v < 1073754113) :
    new chk v = .ok (v % 1073754113).toNat := by
  -- every intermediate value x has |x| < p < 2^31, and the result lies in [0, p), below 2^32
  have i32 : ∀ {x : Int}, -1073754113 < x → x < 1073754113 → arithS chk 32 x = .ok x := fun a b =>
    arithS32_ok chk (Int.le_of_lt (Int.lt_trans (by decide) a)) (Int.lt_trans b (by decide))
  have u32 : ∀ {x : Int}, 0 ≤ x → x < 1073754113 → wrapU 32 x = x := fun a b =>
    Int.emod_eq_of_lt a (Int.lt_trans b (by decide))
  unfold new
  rw [pval]
  by_cases hv : v ≥ 0
  · -- sign = 1: |v| = v, v mod p = v, nothing is added
    have hm : v % 1073754113 = v := Int.emod_eq_of_lt hv h1
    have ht : Int.tmod v 1073754113 = v := (Int.tmod_eq_emod_of_nonneg hv).trans hm
    simp only [hv, if_true, Int.sub_zero, Int.one_mul, Int.sub_self, Int.mul_zero, Int.add_zero, ht, i32 h0 h1,
      Res.bind_ok, Res.pure_eq]
    rw [hm, u32 hv h1]
  · -- sign = −1: |v| = −v, v mod p = v + p: p is added
    have hn : 0 ≤ -v := by omega
    have hn1 : -v < 1073754113 := by omega
    have hp : 0 ≤ v + 1073754113 := by omega
    have hp1 : v + 1073754113 < 1073754113 := by omega
    have hm : v % 1073754113 = v + 1073754113 := by rw [← Int.add_emod_right, Int.emod_eq_of_lt hp hp1]
    have ht : Int.tmod (-v) 1073754113 = -v := (Int.tmod_eq_emod_of_nonneg hn).trans (Int.emod_eq_of_lt hn hn1)
    simp only [hv, if_false, Int.zero_sub, Int.neg_mul, Int.one_mul, ht, Int.neg_neg, Int.sub_zero, Int.mul_one,
      i32 (Int.lt_of_lt_of_le (by decide) hn) hn1, i32 h0 h1, i32 (Int.lt_of_lt_of_le (by decide) hp) hp1,
      Res.bind_ok, Res.pure_eq]
    rw [hm, u32 hp hp1]

theorem balanced_exact (chk : Bool) (a : Nat) (ha : a < 1073754113) :
    balanced chk a = .ok (if (a : Int) > 536877056 then (a : Int) - 1073754113 else (a : Int)) := by
  have hv : value a = (a : Int) := wrapI32_eq (by omega) (by omega)
  simp only [balanced, hv, pval]
  -- the test of the code is the test of the statement: 536877056 = p / 2
  rw [show (1073754113 : Int) / 2 = 536877056 from rfl]
  split
  · rw [Int.mul_one, arithS32_ok chk (by omega) (by omega)]
  · rw [Int.mul_zero, Int.sub_zero, arithS32_ok chk (by omega) (by omega)]
end Falcon.Zp

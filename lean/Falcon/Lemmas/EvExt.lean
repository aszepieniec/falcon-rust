import Falcon.Lemmas.RingZEval
import Mathlib.RingTheory.AdjoinRoot

/-!
Integer coefficient lists of length n are determined by their values at the roots of Xⁿ+1 in commutative rings
(`ev_ext`): the ring ℤ[X]/(Xⁿ+1) and the class of X separate them.  This turns every "at every root" statement of the
tower / Babai development into an equality of coefficient lists.
-/

namespace Falcon.RingZ
open Polynomial

noncomputable def toPoly (l : List Int) : ℤ[X] := ev l (X : ℤ[X])

theorem toPoly_cons (x : Int) (l : List Int) : toPoly (x :: l) = C x + X * toPoly l := by
  unfold toPoly; rw [ev_cons]; simp

theorem toPoly_coeff : ∀ (l : List Int) (i : Nat), (toPoly l).coeff i = l.getD i 0
  | [], i => by simp [toPoly, ev_nil]
  | x :: l, 0 => by rw [toPoly_cons, coeff_add, coeff_C_zero, mul_coeff_zero, coeff_X_zero, zero_mul, add_zero]; rfl
  | x :: l, i + 1 => by rw [toPoly_cons, coeff_add, coeff_C_succ, coeff_X_mul, toPoly_coeff l i, zero_add]; rfl

theorem toPoly_inj (a b : List Int) (hl : a.length = b.length) (h : toPoly a = toPoly b) : a = b := by
  apply List.ext_getElem hl
  intro i h1 h2
  have := congrArg (fun p => p.coeff i) h
  simp only [toPoly_coeff] at this
  simpa [List.getD_eq_getElem?_getD, List.getElem?_eq_getElem h1, List.getElem?_eq_getElem h2] using this

theorem toPoly_degree_lt (l : List Int) : (toPoly l).degree < l.length := by
  rw [degree_lt_iff_coeff_zero]
  intro m hm
  rw [toPoly_coeff]
  have : l.length ≤ m := by exact_mod_cast hm
  simp [List.getD_eq_getElem?_getD, List.getElem?_eq_none this]

theorem ev_hom {R S : Type} [CommRing R] [CommRing S] (φ : R →+* S) : ∀ (l : List Int) (ρ : R), ev l (φ ρ) = φ (ev l ρ)
  | [], ρ => by rw [ev_nil, ev_nil, RingHom.map_zero]
  | x :: l, ρ => by rw [ev_cons, ev_cons, ev_hom φ l ρ, RingHom.map_add, RingHom.map_mul, map_intCast]

theorem ev_ext (n : Nat) (hn : 0 < n) (a b : List Int) (ha : a.length = n) (hb : b.length = n)
    (h : ∀ (R : Type) [CommRing R] (ρ : R), ρ ^ n = -1 → ev a ρ = ev b ρ) : a = b := by
  let P : ℤ[X] := X ^ n + C 1
  have hdeg : P.degree = n := degree_X_pow_add_C (by omega) 1
  have hroot : (AdjoinRoot.root P) ^ n = -1 := by
    have := AdjoinRoot.mk_self (f := P)
    -- `RingHom.map_*`: the class-generic `map_add`, `map_pow`, `map_one` search the hom classes of `AdjoinRoot.mk` at length
    rw [show P = X ^ n + C 1 from rfl, RingHom.map_add, RingHom.map_pow, AdjoinRoot.mk_X, C_1, RingHom.map_one] at this
    exact eq_neg_of_add_eq_zero_left this
  -- the two polynomials agree modulo P, and their difference has smaller degree than P
  have h1 := h (AdjoinRoot P) (AdjoinRoot.root P) hroot
  rw [← AdjoinRoot.mk_X, ev_hom, ev_hom, AdjoinRoot.mk_eq_mk] at h1
  have hlt : (toPoly a - toPoly b).degree < P.degree := by
    rw [hdeg]
    exact lt_of_le_of_lt (degree_sub_le _ _) (max_lt (ha ▸ toPoly_degree_lt a) (hb ▸ toPoly_degree_lt b))
  exact toPoly_inj a b (ha.trans hb.symm) (sub_eq_zero.mp (eq_zero_of_dvd_of_degree_lt h1 hlt))

end Falcon.RingZ

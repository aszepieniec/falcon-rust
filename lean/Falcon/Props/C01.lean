import Falcon.Props.C02
import Falcon.Props.C07
import Falcon.Props.C04
import Falcon.Lemmas.SignAlg
import Falcon.Lemmas.Keys
import Falcon.Lemmas.PublicKey

/-!
# C01 — every honest signature verifies (for every sampler outcome)

`sign` computes with floating point, but what it outputs is an exact function of the key, the salt, the
message and the integer lattice point z = (z0, z1) chosen by the sampler (`SignSkel.signWith`).  Proved for
*every* z, c and key satisfying the NTRU relation modulo q:  c − s2⋆h ≡ s1 with s2 = −(z0⋆f + z1⋆F),
s1 = c + z0⋆g + z1⋆G; centring can only shrink the norm; so a pair inside the bound passes the
specification's test (which is what `verify` computes, C02).  The remainder — that the floating-point
quantities equal the exact ones (rounded inverse FFT exact, float norm on the right side of the bound) — is
checked on every traced signature: the model recomputes the signature bytes from z exactly and compares.

That is the integer core, on lists (`honest_signature_verifies`).  On it stand the statements on bytes, for both variants
and every sampler outcome: what the model of `sign` returns parses and verifies (`signed_bytes_verify`), also through the
public entry on the serialised public key (`signed_bytes_verify_public_api`); for every key that satisfies the NTRU equation
with an invertible f, under the public key the code derives from it (`signed_bytes_verify_for_every_valid_key`); and for
every key the modelled key generation returns inside its exactness window (`keygen_then_sign_then_verify`).
-/
namespace Falcon.Props.C01
open Falcon

/-- **coset identity** in any commutative ring: with f·G = g·F (the NTRU equation modulo q) and f·f⁻¹ = 1,
    h = g·f⁻¹, the vector (s1, s2) = (c + z0·g + z1·G, −(z0·f + z1·F)) satisfies s1 = c − s2·h,
    for every hashed point c and every sampler outcome (z0, z1) -/
theorem coset_identity {R : Type} [CommRing R] (c f g F G z0 z1 finv : R)
    (hntru : f * G - g * F = 0) (hinv : f * finv = 1) :
    c - (-(z0 * f + z1 * F)) * (g * finv) = c + z0 * g + z1 * G := by
  -- F·h = G: the NTRU equation divided by f
  have hFh : F * (g * finv) = G := by linear_combination G * hinv - finv * hntru
  linear_combination z0 * g * hinv + z1 * hFh

/-- centring is norm-minimal: the centred representative of x mod q is no larger than x in absolute value -/
theorem centred_sq_le (x : Int) :
    let r := x % 12289
    let cr := if r > 6144 then r - 12289 else r
    cr * cr ≤ x * x := by
  intro r cr
  have habs : cr.natAbs ≤ x.natAbs := by
    simp only [cr, r]
    omega
  rw [← Int.natAbs_mul_self' cr, ← Int.natAbs_mul_self' x]
  exact_mod_cast Nat.mul_self_le_mul_self habs

/-- hence: if the centred vector agrees with s1 modulo q coefficient-wise, its squared norm is at most ‖s1‖² -/
theorem centred_norm_le : ∀ (s1 : List Int) (cs : List Int),
    cs = s1.map (fun x => let r := x % 12289; if r > 6144 then r - 12289 else r) →
    SignSkel.normSq cs ≤ SignSkel.normSq s1 := by
  intro s1
  induction s1 with
  | nil => intro cs h; subst h; simp [SignSkel.normSq]
  | cons x xs ih =>
    intro cs h
    subst h
    have := ih _ rfl
    have hx := centred_sq_le x
    simp only [SignSkel.normSq, List.map_cons, List.sum_cons] at this ⊢
    omega

/-- the loop structure of `sign` as extracted: a candidate is retried iff its (float) norm is `>` the bound —
    so everything `sign` returns had norm ≤ ⌊β²⌋ — and `verify` accepts at `≤` (no gap at equality) -/
theorem sign_and_verify_agree_at_the_bound : Gen.signNormRetryGt = true ∧ Gen.verifyCmpLe = true := ⟨rfl, rfl⟩

/-- the salt returned in the signature is the salt that was hashed: it is written exactly once (before
    `hash_to_point`) and never again, also not on a retry of the compression loop -/
theorem returned_salt_is_the_hashed_salt :
    Gen.signSaltFills = 1 ∧ Gen.signSaltWrites = 2 ∧ Gen.signSaltBeforeHash = true := ⟨rfl, rfl, rfl⟩

/-- what `SignSkel.signWith` returns for n = 512 is inside the bound (by construction of the model:
    the norm test is one of the two retry conditions of `sign`) -/
theorem signWith_ok_inside_bound (chk : Bool) (f g cF cG : List Int) (msg salt : List Nat) (z0 z1 : List Int)
    (sig : List Nat) (h : SignSkel.signWith chk 512 f g cF cG msg salt z0 z1 = .ok (.ok sig)) :
    SignSkel.normSq (SignSkel.s1Of 512 g cG z0 z1 (Hash.hashToPoint (salt ++ msg) 512)) +
      SignSkel.normSq (SignSkel.s2Of 512 f cF z0 z1) ≤ 34034726 := by
  obtain ⟨P, _, hP, hb, _⟩ := SignSkel.signWith_ok h
  obtain rfl := Res.ok.inj (hP.symm.trans Verify.params_512)
  exact_mod_cast hb

private theorem specCentred_new (x : Int) :
    C02.centred (Zq.new x) = (let r := x % 12289; if r > 6144 then r - 12289 else r) := by
  have hc := Zq.new_cast x
  simp only [C02.centred]
  by_cases hg : Zq.new x > 6144
  · rw [if_pos hg, if_pos (by omega), hc]
  · rw [if_neg hg, if_neg (by omega), hc]

/-- **every honest signature verifies** (integer core, list level): for every n = 2^d ≤ 1024, every key
    (f, g, F, G) whose public polynomial h satisfies h⋆f = g and h⋆F = G modulo q, every hashed point cc and
    EVERY lattice point (z0, z1) the sampler may return: if the exact pair (s1, s2) is within the bound and s2
    fits the byte budget — the two conditions under which `sign` stops retrying — then the emitted bytes are
    accepted by `verify`, in both build modes -/
theorem honest_signature_verifies (chk : Bool) (d : Nat) (hd : d ≤ 10) (P : Verify.Params)
    (f g cF cG z0 z1 : List Int) (h cc s : List Nat) (L : Nat)
    (lf : f.length = 2 ^ d) (lg : g.length = 2 ^ d) (lF : cF.length = 2 ^ d) (lG : cG.length = 2 ^ d)
    (l0 : z0.length = 2 ^ d) (l1 : z1.length = 2 ^ d) (lh : h.length = 2 ^ d) (lc : cc.length = 2 ^ d)
    (hk1 : Ntt.negacyc (2 ^ d) h (Ntt.toZq f) = Ntt.toZq g)
    (hk2 : Ntt.negacyc (2 ^ d) h (Ntt.toZq cF) = Ntt.toZq cG)
    (hbound : P.sigBound ≤ 70265242)
    (hnorm : SignSkel.normSq (SignSkel.s1Of (2 ^ d) g cG z0 z1 cc) + SignSkel.normSq (SignSkel.s2Of (2 ^ d) f cF z0 z1)
        ≤ (P.sigBound : Int))
    (hfit : Spec.compressRef (SignSkel.s2Of (2 ^ d) f cF z0 z1) L = some s) :
    Verify.verifyCore chk P (2 ^ d) cc s h = .ok true := by
  -- every coefficient of s2 is far below the codec's cap
  have hs1nn := SignSkel.normSq_nonneg (SignSkel.s1Of (2 ^ d) g cG z0 z1 cc)
  have hsmall : ∀ x ∈ SignSkel.s2Of (2 ^ d) f cF z0 z1, x.natAbs < 12160 := by
    intro x hx
    by_contra hc
    -- x² ≤ ‖s2‖² ≤ ‖s1‖² + ‖s2‖² ≤ the bound ≤ 70265242 < x²
    have hsq := (SignSkel.sq_le_normSq _ x hx).trans
      ((Int.le_add_of_nonneg_left hs1nn).trans (hnorm.trans (Int.ofNat_le.mpr hbound)))
    exact absurd hsq (Int.not_le.mpr (C02.cap_is_harmless x (Nat.le_of_not_lt hc)).1)
  -- the body decodes to s2 (C07) …
  obtain ⟨hdec, _, hwf⟩ := C07.compress_roundtrip _ L s hsmall hfit
  rw [SignSkel.s2Of_length lf lF z0 z1] at hdec
  -- … so verify computes the specification's test on s2 (C02) …
  rw [C02.verifyCore_eq_algorithm16 chk d hd P cc s h hwf lc lh]
  simp only [C02.specVerify, hdec, C02.specAccept]
  -- … whose first vector is s1 reduced mod q (coset identity), and centring only shrinks it
  rw [show (SignSkel.s2Of (2 ^ d) f cF z0 z1).map Zq.new = Ntt.toZq _ from rfl,
    Ntt.coset_lists d hd f g cF cG z0 z1 h cc lf lg lF lG lh lc hk1 hk2]
  have hle := centred_norm_le (SignSkel.s1Of (2 ^ d) g cG z0 z1 cc) ((Ntt.toZq _).map C02.centred)
    (by rw [Ntt.toZq, List.map_map]; exact List.map_congr_left fun x _ => specCentred_new x)
  -- `C02.normSq` is `SignSkel.normSq`
  exact congrArg Res.ok (decide_eq_true (Int.le_trans (Int.add_le_add_right hle _) hnorm))

/-- **sign then verify, on bytes**: for both variants, every key lists with h⋆f = g and h⋆F = G, every message,
    salt and EVERY sampler outcome z: if the model of `sign` (norm test, byte-level `compress`, `to_bytes`) returns
    signature bytes instead of retrying, those bytes parse (`Signature::from_bytes`) to (salt, body) and `verify`
    (hash, byte-level `decompress`, NTT product, centring, norm test) returns `true`, in both build modes.
    Hypothesis `hhash`: the XOF yielded n accepted chunks within the model's block budget. -/
theorem signed_bytes_verify (chk : Bool) (N d : Nat) (hN : (N = 512 ∧ d = 9) ∨ (N = 1024 ∧ d = 10))
    (f g cF cG z0 z1 : List Int) (h msg salt sig : List Nat)
    (lf : f.length = N) (lg : g.length = N) (lF : cF.length = N) (lG : cG.length = N)
    (l0 : z0.length = N) (l1 : z1.length = N) (lh : h.length = N)
    (hk1 : Ntt.negacyc N h (Ntt.toZq f) = Ntt.toZq g)
    (hk2 : Ntt.negacyc N h (Ntt.toZq cF) = Ntt.toZq cG)
    (hsalt : salt.length = 40)
    (hhash : (Hash.hashToPoint (salt ++ msg) N).length = N)
    (hs : SignSkel.signWith chk N f g cF cG msg salt z0 z1 = .ok (.ok sig)) :
    ∃ body, KeyCodec.sigFromBytes N sig = .ok (.ok (salt, body)) ∧
      Verify.verify chk N msg salt body h = .ok true := by
  obtain ⟨hNd, hd, _⟩ := variant_pow hN
  obtain ⟨P, body, hP, hnorm, hbody, rfl⟩ := SignSkel.signWith_ok hs
  obtain ⟨hPb, L, hNL⟩ : P.sigBound ≤ 70265242 ∧ ∃ L, (N = 512 ∧ L = 625) ∨ (N = 1024 ∧ L = 1239) := by
    rcases hN with ⟨rfl, _⟩ | ⟨rfl, _⟩
    · cases hP; exact ⟨by decide, 625, .inl ⟨rfl, rfl⟩⟩
    · cases hP; exact ⟨by decide, 1239, .inr ⟨rfl, rfl⟩⟩
  rw [KeyCodec.sig_budget hNL, C07.compress_refines] at hbody
  have hbody' : Spec.compressRef (SignSkel.s2Of N f cF z0 z1) L = some body := Res.ok.inj hbody
  refine ⟨body, KeyCodec.sig_parse N L salt body hsalt (Spec.compressRef_length hbody') hNL, ?_⟩
  unfold Verify.verify
  simp only [hP, Res.bind_ok]
  subst hNd
  exact honest_signature_verifies chk d hd P f g cF cG z0 z1 h _ body L lf lg lF lG l0 l1 lh hhash hk1 hk2 hPb hnorm
    hbody'

/-- … and through the public entry point on both byte strings: with the public key serialised by `to_bytes`,
    `verify(msg, Signature::from_bytes(sig), PublicKey::from_bytes(pk))` returns `true` -/
theorem signed_bytes_verify_public_api (chk : Bool) (N d : Nat) (hN : (N = 512 ∧ d = 9) ∨ (N = 1024 ∧ d = 10))
    (f g cF cG z0 z1 : List Int) (h msg salt sig : List Nat)
    (lf : f.length = N) (lg : g.length = N) (lF : cF.length = N) (lG : cG.length = N)
    (l0 : z0.length = N) (l1 : z1.length = N) (lh : h.length = N) (hc : ∀ x ∈ h, x < 12289)
    (hk1 : Ntt.negacyc N h (Ntt.toZq f) = Ntt.toZq g)
    (hk2 : Ntt.negacyc N h (Ntt.toZq cF) = Ntt.toZq cG)
    (hsalt : salt.length = 40)
    (hhash : (Hash.hashToPoint (salt ++ msg) N).length = N)
    (hs : SignSkel.signWith chk N f g cF cG msg salt z0 z1 = .ok (.ok sig)) :
    Verify.verifyBytes chk N msg sig (KeyCodec.pkToBytes h) = .ok (some true) := by
  obtain ⟨body, hparse, hver⟩ := signed_bytes_verify chk N d hN f g cF cG z0 z1 h msg salt sig lf lg lF lG l0 l1 lh
    hk1 hk2 hsalt hhash hs
  rw [Verify.verifyBytes, hparse, KeyCodec.pk_roundtrip N (variant_pow hN).2.2 h lh hc]
  exact congrArg (· >>= fun r => pure (some r)) hver

/-- **sign then verify for EVERY valid trapdoor**: the key enters through the NTRU equation alone.  For both variants,
    every (f, g, F, G) with f⋆G − g⋆F = q over ℤ and no zero slot in ntt f (what C04 states about generated keys), the
    public key h that the code derives (batch inversion in the transform domain, in either build mode `chk'`), every
    message, salt and EVERY sampler outcome z: if the model of `sign` returns bytes instead of retrying, they parse
    and `verify` under h returns `true` (uses `Ntt.derived_key_relations` of Lemmas/PublicKey: h⋆f = g and h⋆F = G follow from the
    NTRU equation) -/
theorem signed_bytes_verify_for_every_valid_key (chk chk' : Bool) (N d : Nat) (hN : (N = 512 ∧ d = 9) ∨ (N = 1024 ∧ d = 10))
    (f g cF cG z0 z1 : List Int) (msg salt sig : List Nat)
    (lf : f.length = N) (lg : g.length = N) (lF : cF.length = N) (lG : cG.length = N)
    (l0 : z0.length = N) (l1 : z1.length = N)
    (hntru : RingZ.ntruLhs N f g cF cG = (12289 : Int) :: List.replicate (N - 1) 0)
    (hinv : ∀ x ∈ Ntt.ntt d (Ntt.toZq f), x ≠ 0)
    (hsalt : salt.length = 40)
    (hhash : (Hash.hashToPoint (salt ++ msg) N).length = N)
    (hs : SignSkel.signWith chk N f g cF cG msg salt z0 z1 = .ok (.ok sig)) :
    ∃ finv h body, Zq.batchInv chk' (Ntt.ntt d (Ntt.toZq f)) = .ok finv ∧
      Ntt.intt d (Ntt.hadamard (Ntt.ntt d (Ntt.toZq g)) finv) = .ok h ∧
      KeyCodec.sigFromBytes N sig = .ok (.ok (salt, body)) ∧
      Verify.verify chk N msg salt body h = .ok true := by
  obtain ⟨rfl, hd, _⟩ := variant_pow hN
  obtain ⟨finv, h, hb, hh, lh, _, hk1, hk2⟩ := Ntt.derived_key_relations chk' d hd f g cF cG lf lg lF lG hntru hinv
  obtain ⟨body, hp, hv⟩ := signed_bytes_verify chk (2 ^ d) d hN f g cF cG z0 z1 h msg salt sig lf lg lF lG l0 l1 lh hk1 hk2
    hsalt hhash hs
  exact ⟨finv, h, body, hb, hh, hp, hv⟩

/-- **key generation, then signing, then verification — for every seed**: for both variants, every seed for which
    the modelled key generation (`Model/Keygen.ntruGen`, byte-identical with the real `keygen` on every compared seed)
    returns a key, the public key the code derives from it, every message, salt and EVERY outcome z of the sampler: if the
    model of `sign` returns signature bytes instead of retrying, `Signature::from_bytes` parses them and `verify`
    returns `true`, in both build modes.  Hypotheses beyond the two runs: the exactness window of the 32-bit top level
    for this key (`Keygen.entryWindow`, evaluated by the driver on every generated key: `window=ok`), a 40-byte salt,
    and n hashed coefficients (SHAKE).  This is C01's statement on the models, with the floating-point sampler
    universally quantified. -/
theorem keygen_then_sign_then_verify (chk chk' : Bool) (N d j : Nat)
    (hN : (N = 512 ∧ d = 9 ∧ j = 8) ∨ (N = 1024 ∧ d = 10 ∧ j = 9))
    (seed : List Nat) (f g cF cG : List Int) (k : Nat) (z0 z1 : List Int) (msg salt sig : List Nat)
    (hkey : Keygen.ntruGen chk' N seed = .ok (.key f g cF cG k)) (hw : Keygen.entryWindow f g = true)
    (l0 : z0.length = N) (l1 : z1.length = N) (hsalt : salt.length = 40)
    (hhash : (Hash.hashToPoint (salt ++ msg) N).length = N)
    (hs : SignSkel.signWith chk N f g cF cG msg salt z0 z1 = .ok (.ok sig)) :
    ∃ finv h body, Zq.batchInv chk' (Ntt.ntt d (Ntt.toZq f)) = .ok finv ∧
      Ntt.intt d (Ntt.hadamard (Ntt.ntt d (Ntt.toZq g)) finv) = .ok h ∧
      KeyCodec.sigFromBytes N sig = .ok (.ok (salt, body)) ∧
      Verify.verify chk N msg salt body h = .ok true := by
  -- key generation names the variant by j, the transforms by d = j + 1
  have hNj : (N = 512 ∧ j = 8) ∨ (N = 1024 ∧ j = 9) := hN.imp (fun h => ⟨h.1, h.2.2⟩) fun h => ⟨h.1, h.2.2⟩
  obtain rfl : d = j + 1 := by rcases hN with ⟨_, rfl, rfl⟩ | ⟨_, rfl, rfl⟩ <;> rfl
  obtain ⟨lf, lg, lF, lG, hntru, hinv, _⟩ :=
    C04.model_generated_keys_are_ntru_trapdoors chk' N j hNj seed f g cF cG k hkey hw
  exact signed_bytes_verify_for_every_valid_key chk chk' N (j + 1) (variant_succ hNj) f g cF cG z0 z1 msg salt sig
    lf lg lF lG l0 l1 hntru hinv hsalt hhash hs

/-- non-vacuity of `honest_signature_verifies`: a degree-2 key with h·f = g, h·F = G meets every hypothesis -/
example : Verify.verifyCore true ⟨2, 1, 100⟩ (2 ^ 1) [5, 7] [1, 128, 64] [3, 0] = .ok true :=
  honest_signature_verifies true 1 (by decide) ⟨2, 1, 100⟩ [1, 0] [3, 0] [0, 1] [0, 3] [1, 0] [0, 2] [3, 0] [5, 7]
    [1, 128, 64] 3 rfl rfl rfl rfl rfl rfl rfl rfl (by decide) (by decide) (by decide) (by decide) (by decide)

/-- non-vacuity of the coset identity: an instance over the integers (f = 1, g = 3, F = 2, G = 6: f·G = g·F) -/
example : (5 : Int) - (-(2 * 1 + 7 * 2)) * (3 * 1) = 5 + 2 * 3 + 7 * 6 := by decide

end Falcon.Props.C01

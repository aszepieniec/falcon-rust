/-
  Exact arithmetic in Z[X]/(X^n+1) on coefficient lists (Lean `Int` = the big integers / the mathematical
  integers): the reference against which the modular and floating-point code paths are compared.
-/
namespace Falcon.RingZ

def addL (a b : List Int) : List Int := List.zipWith (· + ·) a b
def subL (a b : List Int) : List Int := List.zipWith (· - ·) a b
def smulL (c : Int) (a : List Int) : List Int := a.map (c * ·)

/-- multiplication by X: (p_0,…,p_{n-1}) ↦ (−p_{n-1}, p_0, …, p_{n-2}) -/
def mulX (p : List Int) : List Int :=
  match p.getLast? with
  | none => []
  | some l => (-l) :: p.dropLast

/-- a ⋆ b in Z[X]/(X^n+1), Horner form -/
def negacyc (n : Nat) : List Int → List Int → List Int
  | [], _ => List.replicate n 0
  | c :: cs, b => addL (smulL c b) (mulX (negacyc n cs b))

/-- one Babai step with quotient k: (F, G) ↦ (F − k⋆f, G − k⋆g) -/
def babaiStep (n : Nat) (f g : List Int) (FG : List Int × List Int) (k : List Int) : List Int × List Int :=
  (subL FG.1 (negacyc n k f), subL FG.2 (negacyc n k g))

/-- the reduction loop with the quotients supplied by an oracle (the floating-point computation): every
    round subtracts k⋆(f, g); it stops at the first zero quotient -/
def babaiRun (n : Nat) (f g : List Int) : List (List Int) → List Int × List Int → List Int × List Int
  | [], FG => FG
  | k :: ks, FG => if k.all (· == 0) then FG else babaiRun n f g ks (babaiStep n f g FG k)

/-! ### the tower of NTRUSolve: `field_norm`, `lift_next_cyclotomic`, `galois_adjoint` of polynomial.rs -/

def evens : List Int → List Int
  | x :: _ :: rest => x :: evens rest
  | [x] => [x]
  | [] => []

def odds : List Int → List Int
  | _ :: y :: rest => y :: odds rest
  | _ => []

/-- `galois_adjoint`: flip the sign of the odd coefficients, f(X) ↦ f(−X) -/
def adjoint : List Int → List Int
  | x :: y :: rest => x :: (-y) :: adjoint rest
  | [x] => [x]
  | [] => []

/-- `lift_next_cyclotomic`: interleave zeros, f(X) ↦ f(X²) -/
def lift : List Int → List Int
  | [] => []
  | x :: rest => x :: 0 :: lift rest

/-- `field_norm` for a polynomial of length n: f0² − X·f1² in Z[X]/(X^{n/2}+1), f0 / f1 the even / odd parts -/
def fieldNorm (n : Nat) (f : List Int) : List Int :=
  subL (negacyc (n / 2) (evens f) (evens f)) (mulX (negacyc (n / 2) (odds f) (odds f)))

/-- the lifting step of NTRUSolve: F = lift(F')⋆g^⋆, G = lift(G')⋆f^⋆ (karatsuba, then reduction by Xⁿ+1) -/
def liftStep (n : Nat) (f g cF' cG' : List Int) : List Int × List Int :=
  (negacyc n (lift cF') (adjoint g), negacyc n (lift cG') (adjoint f))

/-- f⋆G − g⋆F -/
def ntruLhs (n : Nat) (f g F G : List Int) : List Int := subL (negacyc n f G) (negacyc n g F)


/-! ### `vector_karatsuba` and `reduce_by_cyclotomic` of polynomial.rs: the product as the code computes it -/

/-- addition of coefficient vectors of different lengths (the shorter one extended by zeros): `p[i] += q[i]` -/
def addPad : List Int → List Int → List Int
  | [], b => b
  | a, [] => a
  | x :: a, y :: b => (x + y) :: addPad a b

def negL (a : List Int) : List Int := a.map (- ·)

/-- the schoolbook double loop `product[i + j] += l * r` -/
def school : List Int → List Int → List Int
  | [], _ => []
  | [x], b => smulL x b
  | x :: xs, b => addPad (smulL x b) (0 :: school xs b)

/-- `vector_karatsuba` for operands of equal length n with n ≤ 8 or n even at every level above 8 (the real function
    indexes out of bounds otherwise): fuel bounds the recursion depth -/
def karatsubaGo : Nat → List Int → List Int → List Int
  | 0, a, b => school a b
  | fuel + 1, a, b =>
    let n := a.length
    if n ≤ 8 then school a b else
    let h := n / 2
    let lo := karatsubaGo fuel (a.take h) (b.take h)
    let hi := karatsubaGo fuel (a.drop h) (b.drop h)
    let mid := subL (karatsubaGo fuel (addL (a.take h) (a.drop h)) (addL (b.take h) (b.drop h))) (addL lo hi)
    addPad (addPad (addPad (List.replicate (2 * n - 1) 0) lo) (List.replicate h 0 ++ mid)) (List.replicate n 0 ++ hi)

def karatsuba (a b : List Int) : List Int := karatsubaGo a.length a b

/-- the lengths on which `vector_karatsuba` does not index out of bounds -/
def karatsubaOk : Nat → Nat → Bool
  | 0, n => n ≤ 8 && 0 < n
  | fuel + 1, n => if n ≤ 8 then 0 < n else n % 2 == 0 && karatsubaOk fuel (n / 2)

/-- `reduce_by_cyclotomic(n)`: fold the blocks of n coefficients with alternating signs -/
def reduceCycGo (n : Nat) : Nat → List Int → List Int
  | 0, _ => List.replicate n 0
  | fuel + 1, p => if p.isEmpty then List.replicate n 0 else
      addPad (List.replicate n 0) (addPad (p.take n) (negL (reduceCycGo n fuel (p.drop n))))

def reduceCyc (n : Nat) (p : List Int) : List Int := reduceCycGo n (p.length + 1) p

/-- the product as the code computes it: `a.karatsuba(b).reduce_by_cyclotomic(n)` -/
def kmul (n : Nat) (a b : List Int) : List Int := reduceCyc n (karatsuba a b)


/-- `field_norm` as polynomial.rs computes it: schoolbook squares of the even and odd parts, each reduced by
    X^{n/2}+1, the odd one multiplied by X = [0, 1] and reduced again -/
def fieldNormImpl (n : Nat) (f : List Int) : List Int :=
  subL (reduceCyc (n / 2) (school (evens f) (evens f)))
    (reduceCyc (n / 2) (school [0, 1] (reduceCyc (n / 2) (school (odds f) (odds f)))))

/-- the lifting step and the Babai step exactly as math.rs computes them: `karatsuba(..).reduce_by_cyclotomic(n)` -/
def liftStepImpl (n : Nat) (f g cF' cG' : List Int) : List Int × List Int :=
  (kmul n (lift cF') (adjoint g), kmul n (lift cG') (adjoint f))

def babaiStepImpl (n : Nat) (f g : List Int) (FG : List Int × List Int) (k : List Int) : List Int × List Int :=
  (subL FG.1 (kmul n k f), subL FG.2 (kmul n k g))

/-! the extended Euclid of `math.rs::xgcd` (num-bigint's `/` truncates toward zero: `Int.tdiv`) -/
theorem sub_tdiv_mul (x r : Int) : x - Int.tdiv x r * r = Int.tmod x r := by rw [Int.tmod_def, Int.mul_comm]

theorem xgcd_dec (x r : Int) (h : ¬ r = 0) : (x - Int.tdiv x r * r).natAbs < r.natAbs := by
  rw [sub_tdiv_mul, Int.natAbs_tmod]
  exact Nat.mod_lt _ (Int.natAbs_pos.mpr h)

/-- the `while r != 0` loop: state (old_r, r, old_s, s, old_t, t) -/
def xgcdGo (x r os s ot t : Int) : Int × Int × Int :=
  if h : r = 0 then (x, os, ot) else
    xgcdGo r (x - Int.tdiv x r * r) s (os - Int.tdiv x r * s) t (ot - Int.tdiv x r * t)
termination_by r.natAbs
decreasing_by exact xgcd_dec x r h

/-- `xgcd(a, b)` = (gcd up to sign, u, v) -/
def xgcd (a b : Int) : Int × Int × Int := xgcdGo a b 1 0 0 1

/-- the n = 1 case of `ntru_solve`: `None` unless the gcd is exactly 1, else (−v·q, u·q) -/
def ntruBase (a b : Int) : Option (Int × Int) :=
  let (d, u, v) := xgcd a b
  if d ≠ 1 then none else some (-v * 12289, u * 12289)

end Falcon.RingZ

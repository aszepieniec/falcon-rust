import Falcon.Lemmas.NttGeneric

/-!
`splitO` / `mergeO` of `Falcon.FftFlt` (the models of `split_fft` / `merge_fft`) at the operations `ringOps` of an exact
commutative ring (where the network is `NttG.nttRec`, so round trip and multiplication come from `NttGeneric`): split and
merge undo each other, what each returns slot by slot, and the transform of 2^(d+1) coefficients is the merge of the
transforms of the even and of the odd ones.
(The floating-point instance is executed, these theorems say what the network computes in exact arithmetic; the gap is
rounding, bounded per run by the accuracy oracle of C13.)
-/
namespace Falcon.FftFlt

variable {F : Type} [CommRing F]

section pair
variable {half z zi : F} (hh : half * 2 = 1) (hz : z * zi = 1)
include hh hz

theorem merge_split_pair (x y : F) :
    half * (x + y) + z * (half * zi * (x - y)) = x ∧ half * (x + y) - z * (half * zi * (x - y)) = y :=
  ⟨by linear_combination (half * (x - y)) * hz + x * hh, by linear_combination (-(half * (x - y))) * hz + y * hh⟩

theorem split_merge_pair (a c : F) :
    half * ((a + z * c) + (a - z * c)) = a ∧ half * zi * ((a + z * c) - (a - z * c)) = c :=
  ⟨by linear_combination a * hh, by linear_combination (c * half * 2) * hz + c * hh⟩

end pair

theorem mergeO_splitO (T TI : Nat → F) (half : F) (hh : half * 2 = 1) : ∀ (l : List F) (b : Nat), l.length % 2 = 0 →
    (∀ i, i < l.length / 2 → T (b + i) * TI (b + i) = 1) →
    mergeO ringOps T b (splitO ringOps TI half b l).1 (splitO ringOps TI half b l).2 = l
  | [], _, _, _ => rfl
  | [_], _, hl, _ => by simp at hl
  | x :: y :: l, b, hl, hz => by
    -- two entries more: the same parity, one pair more
    rw [show (x :: y :: l).length % 2 = l.length % 2 from Nat.add_mod_right _ 2] at hl
    rw [show (x :: y :: l).length / 2 = l.length / 2 + 1 from Nat.add_div_right _ Nat.two_pos] at hz
    obtain ⟨ex, ey⟩ := merge_split_pair hh (hz 0 (Nat.succ_pos _)) x y
    have ih := mergeO_splitO T TI half hh l (b + 1) hl
      (fun i hi => by rw [Nat.add_right_comm, Nat.add_assoc]; exact hz (i + 1) (Nat.succ_lt_succ hi))
    simp only [splitO, mergeO, ih]
    exact congrArg₂ (· :: · :: l) ex ey

theorem splitO_mergeO (T TI : Nat → F) (half : F) (hh : half * 2 = 1) : ∀ (a c : List F) (b : Nat), a.length = c.length →
    (∀ i, i < a.length → T (b + i) * TI (b + i) = 1) → splitO ringOps TI half b (mergeO ringOps T b a c) = (a, c)
  | [], [], _, _, _ => rfl
  | [], _ :: _, _, h, _ => nomatch h
  | _ :: _, [], _, h, _ => nomatch h
  | x :: a, y :: c, b, h, hT => by
    obtain ⟨ex, ey⟩ := split_merge_pair hh (hT 0 (Nat.succ_pos _)) x y
    have ih := splitO_mergeO T TI half hh a c (b + 1) (Nat.succ.inj h)
      (fun i hi => by rw [Nat.add_right_comm, Nat.add_assoc]; exact hT (i + 1) (Nat.succ_lt_succ hi))
    simp only [mergeO, splitO, ih]
    exact congrArg₂ (fun u v => (u :: a, v :: c)) ex ey

/-- whatever the lengths: both sides stop at the shorter list -/
theorem splitO_sub (TI : Nat → F) (half : F) : ∀ (a c : List F) (b : Nat),
    splitO ringOps TI half b (List.zipWith (· - ·) a c) =
      (List.zipWith (· - ·) (splitO ringOps TI half b a).1 (splitO ringOps TI half b c).1,
       List.zipWith (· - ·) (splitO ringOps TI half b a).2 (splitO ringOps TI half b c).2)
  | x :: y :: a, u :: v :: c, b => by
    simp only [List.zipWith_cons_cons, splitO, splitO_sub TI half a c (b + 1), Prod.mk.injEq, List.cons.injEq, and_true]
    exact ⟨by simp only [ringOps]; ring, by simp only [ringOps]; ring⟩
  | [], _, _ | [_], [], _ | [_], _ :: _, _ | _ :: _ :: _, [], _ | _ :: _ :: _, [_], _ => rfl

theorem splitO_eq_map (TI : Nat → F) (half : F) : ∀ (l : List F) (b : Nat),
    splitO ringOps TI half b l =
      ((List.range (l.length / 2)).map fun i => half * (l.getD (2 * i) 0 + l.getD (2 * i + 1) 0),
       (List.range (l.length / 2)).map fun i => half * TI (b + i) * (l.getD (2 * i) 0 - l.getD (2 * i + 1) 0))
  | [], _ | [_], _ => by
    simp only [splitO, List.length_nil, List.length_singleton, Nat.reduceDiv, List.range_zero, List.map_nil]
  | x :: y :: l, b => by
    rw [splitO, splitO_eq_map TI half l (b + 1), List.length_cons, List.length_cons, Nat.add_div_right _ Nat.two_pos,
      List.range_succ_eq_map]
    simp only [List.map_cons, List.map_map, Function.comp_def, Nat.succ_eq_add_one, Nat.mul_add_one, Nat.add_assoc,
      Nat.add_comm 1, List.getD_cons_succ, List.getD_cons_zero, Nat.mul_zero, Nat.add_zero]
    rfl

theorem mergeO_eq_flatMap (T : Nat → F) : ∀ (m : Nat) (a c : List F) (b : Nat), a.length = m → c.length = m →
    mergeO ringOps T b a c =
      (List.range m).flatMap fun i => [a.getD i 0 + T (b + i) * c.getD i 0, a.getD i 0 - T (b + i) * c.getD i 0]
  | 0, [], [], _, _, _ => rfl
  | m + 1, x :: a, y :: c, b, ha, hc => by
    rw [mergeO, mergeO_eq_flatMap T m a c (b + 1) (Nat.succ.inj ha) (Nat.succ.inj hc), List.range_succ_eq_map]
    simp only [List.flatMap_cons, List.flatMap_map, Nat.succ_eq_add_one, Nat.add_assoc,
      Nat.add_comm 1, List.getD_cons_succ, List.getD_cons_zero, Nat.add_zero]
    rfl
  | 0, _ :: _, _, _, h, _ | 0, _, _ :: _, _, _, h | _ + 1, [], _, _, h, _ | _ + 1, _, [], _, _, h => nomatch h

def evens : List F → List F
  | x :: _ :: rest => x :: evens rest
  | [x] => [x]
  | [] => []

def odds : List F → List F
  | _ :: y :: rest => y :: odds rest
  | _ => []

theorem evalL_even_odd : ∀ (a : List F) (ρ : F),
    NttG.evalL a ρ = NttG.evalL (evens a) (ρ * ρ) + ρ * NttG.evalL (odds a) (ρ * ρ)
  | [], _ => by simp [evens, odds, NttG.evalL]
  | [_], _ => by simp [evens, odds, NttG.evalL]
  | x :: y :: rest, ρ => by
    simp only [evens, odds, NttG.evalL, evalL_even_odd rest ρ]
    ring

omit [CommRing F] in
theorem evens_odds_length : ∀ (m : Nat) (a : List F), a.length = 2 * m → (evens a).length = m ∧ (odds a).length = m
  | 0, [], _ => ⟨rfl, rfl⟩
  | m + 1, x :: y :: rest, h => by
    obtain ⟨he, ho⟩ := evens_odds_length m rest (by simp only [List.length_cons] at h; omega)
    exact ⟨congrArg (· + 1) he, congrArg (· + 1) ho⟩
  | 0, _ :: _, h | _ + 1, [], h | _ + 1, [_], h => by simp only [List.length_cons, List.length_nil] at h; omega

theorem range_pairs {α : Type} (g : Nat → α) : ∀ m, (List.range (2 * m)).map g =
    (List.range m).flatMap (fun i => [g (2 * i), g (2 * i + 1)])
  | 0 => rfl
  | m + 1 => by
    rw [Nat.mul_add_one, List.range_succ, List.range_succ, List.map_append, List.map_append, range_pairs g m, List.range_succ,
      List.flatMap_append]
    simp

/-- the points come in pairs ±ζᵢ, ζᵢ = T(2^d + i), over the point ζᵢ² of the half-size transform, and
    a(±ζ) = a_e(ζ²) ± ζ·a_o(ζ²) -/
theorem ntt_eq_merge (T : Nat → F) (d : Nat) (a : List F) (ha : a.length = 2 ^ (d + 1)) (hT : NttG.TableOK T (d + 1) 1) :
    NttG.nttRec T (d + 1) 1 a = mergeO ringOps T (2 ^ d) (NttG.nttRec T d 1 (evens a)) (NttG.nttRec T d 1 (odds a)) := by
  obtain ⟨le, lo⟩ := evens_odds_length (2 ^ d) a (by rw [ha, Nat.pow_succ'])
  have hTd : NttG.TableOK T d 1 := NttG.Below.mono hT (Nat.le_succ d)
  rw [NttG.ntt_eq_eval_root hT ha, NttG.ntt_eq_eval_root hTd le, NttG.ntt_eq_eval_root hTd lo, NttG.roots_eq_range,
    NttG.roots_eq_range, Nat.one_mul, Nat.one_mul, List.map_map, List.map_map, Nat.pow_succ', range_pairs,
    mergeO_eq_flatMap T (2 ^ d) _ _ _ (by simp) (by simp), List.flatMap_def, List.flatMap_def]
  refine congrArg List.flatten (List.map_congr_left fun i hi => ?_)
  have hi' : i < 2 ^ d := List.mem_range.mp hi
  have hsq : T (2 ^ d + i) * T (2 ^ d + i) = NttG.cst T (2 ^ d + i) :=
    (pow_two _).symm.trans (NttG.Below.root_level hT (Nat.lt_succ_self d) hi')
  -- leaves 2i and 2i + 1 of the big transform are the children of node 2^d + i
  have hx : NttG.cst T (2 * 2 ^ d + 2 * i) = T (2 ^ d + i) := by rw [← Nat.mul_add]; exact NttG.cst_even T _
  have hy : NttG.cst T (2 * 2 ^ d + (2 * i + 1)) = -T (2 ^ d + i) := by
    rw [← Nat.add_assoc, ← Nat.mul_add]; exact NttG.cst_odd T _ (Nat.le_add_right_of_le Nat.one_le_two_pow)
  simp only [Function.comp, hx, hy, List.getD_eq_getElem?_getD, List.getElem?_map, List.getElem?_range hi', Option.map_some,
    Option.getD_some]
  rw [evalL_even_odd a (T (2 ^ d + i)), evalL_even_odd a (-T (2 ^ d + i)), neg_mul_neg, hsq, neg_mul, sub_eq_add_neg]

theorem split_fft_exact (T TI : Nat → F) (half : F) (hh : half * 2 = 1) (d : Nat) (a : List F)
    (ha : a.length = 2 ^ (d + 1)) (hT : NttG.TableOK T (d + 1) 1)
    (hinv : ∀ j, 2 ^ d ≤ j → j < 2 ^ (d + 1) → T j * TI j = 1) :
    splitO ringOps TI half (2 ^ d) (nttRecO ringOps T (d + 1) 1 a) =
      (nttRecO ringOps T d 1 (evens a), nttRecO ringOps T d 1 (odds a)) := by
  obtain ⟨le, lo⟩ := evens_odds_length (2 ^ d) a (by rw [ha, Nat.pow_succ'])
  have l1 := NttG.nttRec_length T d 1 _ le
  rw [nttRecO_eq, nttRecO_eq, nttRecO_eq, ntt_eq_merge T d a ha hT]
  exact splitO_mergeO T TI half hh _ _ _ (by rw [l1, NttG.nttRec_length T d 1 _ lo])
    (fun i hi => hinv _ (Nat.le_add_right _ _) (by rw [Nat.pow_succ']; omega))

end Falcon.FftFlt

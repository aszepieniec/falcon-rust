import Falcon.Lemmas.CodecRefine
import Falcon.Lemmas.VerifyAlg
import Falcon.Lemmas.BatchInv
import Falcon.Lemmas.Keys

/-!
# C03 — decoders and verify are total: untrusted bytes never cause a panic

All statements are about the index-exact, overflow-exact models (`Res.panic` = the Rust code unwinds) and hold
for `chk = true` (overflow checks on: debug/test profile) and `chk = false` (release) alike.
-/
namespace Falcon.Props.C03
open Falcon

/-- `decompress` never panics: every index is in bounds and no i16 operation overflows, for every byte
    string and every n ≥ 1 (termination is part of the statement: the model's loops run on fuel `8·len`) -/
theorem decompress_total (chk : Bool) (x : List Nat) (n : Nat) (hn : 1 ≤ n) :
    ∃ r, Codec.decompress chk x n = .ok r := Codec.decompress_total chk x n hn

/-- and when it accepts, it returns exactly n coefficients -/
theorem decompress_length (chk : Bool) (x : List Nat) (n : Nat) (hn : 1 ≤ n) (v : List Int)
    (h : Codec.decompress chk x n = .ok (some v)) : v.length = n := Codec.decompress_length chk x n hn v h

/-- `Signature::from_bytes` never panics -/
theorem signature_from_bytes_total (N : Nat) (b : List Nat) : ∃ r, KeyCodec.sigFromBytes N b = .ok r :=
  (KeyCodec.sigFromBytes_decodes N b).total

/-- `PublicKey::from_bytes` never panics -/
theorem public_key_from_bytes_total (N : Nat) (b : List Nat) : ∃ r, KeyCodec.pkFromBytes N b = .ok r :=
  (KeyCodec.pkFromBytes_decodes N b).total

/-- `SecretKey::from_bytes` never panics up to and including its last check (what follows is NTT
    arithmetic on canonical values, C11/C12, and floating point, which cannot trap) -/
theorem secret_key_from_bytes_total (N : Nat) (b : List Nat) : ∃ r, KeyCodec.skFromBytes N b = .ok r :=
  (KeyCodec.skFromBytes_decodes N b).total

/-- the arithmetic of `verify` never panics: for both variants (indeed every n = 2^d ≤ 1024), every hashed
    point and public key of length n, every signature body -/
theorem verify_core_total (chk : Bool) (d : Nat) (hd : d ≤ 10) (P : Verify.Params) (c s h : List Nat)
    (hc : c.length = 2 ^ d) (hh : h.length = 2 ^ d) :
    ∃ b, Verify.verifyCore chk P (2 ^ d) c s h = .ok b := by
  obtain ⟨r, hr⟩ := Codec.decompress_total chk s (2 ^ d) (Nat.pow_pos (by decide))
  exact ⟨_, by rw [Verify.verifyCore_eq chk d hd P c s h hc hh, hr]; rfl⟩

/-- **the public entry point never panics**: for both variants, every message, every byte string offered as a
    signature and every byte string offered as a public key, `verify` behind the two `from_bytes` calls returns
    (`none` = a decoder returned `Err`, `some b` = the verdict) — in both build modes.  The only hypothesis is about
    SHAKE-256: that the stream of `salt ‖ msg` contains n words below 5q within the model's squeezing budget (the
    real loop squeezes without a budget; it cannot panic, it could only fail to terminate, with probability 0). -/
theorem verify_bytes_total (chk : Bool) (N : Nat) (hN : N = 512 ∨ N = 1024) (msg sig pk : List Nat)
    (hpk : ∀ x ∈ pk, x < 256)
    (hhash : ∀ salt s, KeyCodec.sigFromBytes N sig = .ok (.ok (salt, s)) →
      (Hash.hashToPoint (salt ++ msg) N).length = N) :
    ∃ r, Verify.verifyBytes chk N msg sig pk = .ok r := by
  rw [Verify.verifyBytes_eq]
  split
  · rename_i salt s h hs hp
    have hl := ((KeyCodec.pkFromBytes_ok_iff N pk h).mp hp).coef_length
    obtain ⟨b, hb⟩ : ∃ b, Verify.verify chk N msg salt s h = .ok b := by
      obtain ⟨d, P, hP, rfl, hd, _⟩ := Verify.params_variant hN
      rw [Verify.verify, hP]
      exact verify_core_total chk d hd P _ s h (hhash salt s hs) hl
    exact ⟨some b, by rw [hb]; rfl⟩
  · exact ⟨none, rfl⟩

/-- `batch_inverse_or_zero` (used when a secret key is decoded and when the public key is derived) never panics
    on canonical residues, whatever zeros the batch contains (a non-invertible f gives zeros, not a panic) -/
theorem batch_inverse_total (chk : Bool) (xs : List Nat) (hx : ∀ x ∈ xs, x < Zq.q) :
    ∃ r, Zq.batchInv chk xs = .ok r ∧ r.length = xs.length :=
  ⟨_, Batch.batchInv_eq chk xs hx, by simp⟩

/-- **the integer steps of `SecretKey::from_bytes` after the field decoding are total**: for both variants and every
    byte string the decoder accepts — whether or not f is invertible modulo q — the recomputation of the fourth
    polynomial (three forward transforms, `batch_inverse_or_zero`, two pointwise products, the inverse transform)
    never panics, in both build modes -/
theorem secret_key_recompute_G_total (chk : Bool) (N d : Nat) (hN : (N = 512 ∧ d = 9) ∨ (N = 1024 ∧ d = 10))
    (b : List Nat) (hb : ∀ x ∈ b, x < 256) (f g cF : List Nat)
    (hacc : KeyCodec.skFromBytes N b = .ok (.ok (f, g, cF))) :
    ∃ finv cg, Zq.batchInv chk (Ntt.ntt d f) = .ok finv ∧
      Ntt.intt d (Ntt.hadamard (Ntt.hadamard (Ntt.ntt d g) finv) (Ntt.ntt d cF)) = .ok cg ∧ cg.length = N := by
  obtain ⟨lf, lg, lF⟩ := KeyCodec.sk_decoded_length N b f g cF hacc
  obtain ⟨cf, _, _⟩ := KeyCodec.sk_decoded_canonical N b f g cF hacc
  obtain ⟨rfl, hd, _⟩ := variant_pow hN
  obtain ⟨finv, hfi, hfl⟩ := batch_inverse_total chk (Ntt.ntt d f) (Ntt.ntt_lt d f cf)
  -- the vector handed to `ifft` is canonical, so `Ntt.ntt_intt` gives totality and the length at once
  obtain ⟨cg, hcg, _, lcg, _⟩ := Ntt.ntt_intt d hd _ (Ntt.hadamard_length (Ntt.hadamard_length (Ntt.ntt_length d g lg)
    (hfl.trans (Ntt.ntt_length d f lf))) (Ntt.ntt_length d cF lF)) (Ntt.hadamard_lt _ _)
  exact ⟨finv, cg, hfi, hcg, lcg⟩

/-- non-vacuity: the former crash inputs (finding F1: a non-last coefficient starting 9 bits before the end, with
    and without a set bit after it) are plain rejections -/
example : Codec.decompress true [0x00, 0x02, 0x01] 3 = .ok none := by decide
example : Codec.decompress true [0x00, 0x02, 0x00] 3 = .ok none := by decide

end Falcon.Props.C03
